import Iec.Model.FileSrv
/-
The file server by cases: which handler a step runs (`step_cases`) and, for the two handlers of the
download direction and those that open and close an upload, the few ways in which they change the state
and what they emit (`onAck_cases`, `onCallSel_cases`, `onFileReady_cases`, `onLastSeg_cases`).  The invariants
of both directions and the facts about reported outcomes are proved from these, not from the handlers.
-/
namespace Iec.FileSrv

theorem step_cases {e : Env} {s : Srv} {P : Srv × List Out → Prop} (op : Op)
    (skip : P (s, []))
    (task : ∀ conn now, P (runTask e s conn now))
    (fileReady : ∀ conn now q, P (onFileReady e (s.expire now) conn now q))
    (sectionReady : ∀ conn now q, P (onSectionReady (s.expire now) conn now q))
    (segment : ∀ now q, P (onSegment (s.expire now) now q))
    (lastSeg : ∀ conn now q, P (onLastSeg (s.expire now) conn now q))
    (ack : ∀ conn now q, P (onAck e (s.expire now) conn now q))
    (callSel : ∀ conn now q, op = .asdu conn now q → q.tid = 122 → P (onCallSel e (s.expire now) conn now q))
    (other : ∀ now, P (s.expire now, [])) : P (step e s op) := by
  cases op with
  | task conn now => exact task conn now
  | asdu conn now q =>
    show P ((handleAsdu e s conn now q).getD (s, []))
    unfold handleAsdu
    by_cases h : q.tid < 120 ∨ q.tid > 127
    · rw [if_pos h]; exact skip
    rw [if_neg h, Option.getD_some]
    by_cases h : q.tid = 120
    · rw [if_pos h]; exact fileReady conn now q
    rw [if_neg h]
    by_cases h : q.tid = 121
    · rw [if_pos h]; exact sectionReady conn now q
    rw [if_neg h]
    by_cases h : q.tid = 125
    · rw [if_pos h]; exact segment now q
    rw [if_neg h]
    by_cases h : q.tid = 123
    · rw [if_pos h]; exact lastSeg conn now q
    rw [if_neg h]
    by_cases h : q.tid = 124
    · rw [if_pos h]; exact ack conn now q
    rw [if_neg h]
    by_cases h : q.tid = 122
    · rw [if_pos h]; exact callSel conn now q rfl h
    · rw [if_neg h]; exact other now

theorem forall_mem_ite {P : Out → Prop} {c : Prop} [Decidable c] {o : Out} (h : P o) : ∀ o' ∈ (if c then [o] else []), P o' := by
  split
  · exact List.forall_mem_singleton.mpr h
  · exact List.forall_mem_nil _

/-- outputs that no observer of a transfer reads and that report no success -/
def Plain : Out → Prop
  | .mirror .. | .getFile .. | .complete false | .send _ _ _ _ _ (.fileReady _ false) => True
  | _ => False

/-- `s'` has the state and the transfer bookkeeping of `s` (addressing, selection and clock may differ) -/
structure Kept (s s' : Srv) : Prop where
  st : s'.st = s.st
  secNo : s'.secNo = s.secNo
  secOff : s'.secOff = s.secOff
  secSize : s'.secSize = s.secSize
  secChk : s'.secChk = s.secChk
  fileChk : s'.fileChk = s.fileChk
  receiver : s'.receiver = s.receiver
  expLen : s'.expLen = s.expLen
  recvLen : s'.recvLen = s.recvLen

theorem Kept.rfl {s : Srv} : Kept s s := ⟨.refl _, .refl _, .refl _, .refl _, .refl _, .refl _, .refl _, .refl _, .refl _⟩

theorem onFileReady_cases {P : Srv → List Out → Prop} (e : Env) (s : Srv) (conn now : Nat) (q : Req)
    (keep : ∀ outs, (∀ o ∈ outs, Plain o) → P s outs)
    (accept : ∀ ioa nof lof,
      P { s with receiver := true, ca := q.ca, ioa := ioa, oa := q.oa, nof := nof, fileChk := 0, expLen := lof, recvLen := 0,
                 lastSend := now, st := .waitSectionReady }
        [.readyCb q.ca ioa nof lof, .send conn q.oa q.ca ioa nof .callFile])
    (refuse : ∀ ioa nof lof s' o, s'.receiver = false → s'.st = s.st → s'.secNo = s.secNo → s'.secOff = s.secOff →
      s'.secSize = s.secSize → Plain o → P s' [.readyCb q.ca ioa nof lof, o]) :
    P (onFileReady e s conn now q).1 (onFileReady e s conn now q).2 := by
  unfold onFileReady
  by_cases h : (!e.hasReady) = true
  · rw [if_pos h]; exact keep _ (List.forall_mem_singleton.mpr trivial)
  rw [if_neg h]
  split
  next ioa nof lof _ _ =>
    dsimp only
    by_cases ha : e.accept = true
    · rw [if_pos ha]; exact accept ioa nof lof
    rw [if_neg ha]
    by_cases h1 : e.readyErr = 1
    · rw [if_pos h1]; exact refuse _ _ _ _ _ rfl rfl rfl rfl rfl trivial
    rw [if_neg h1]
    by_cases h2 : e.readyErr = 2
    · rw [if_pos h2]; exact refuse _ _ _ _ _ rfl rfl rfl rfl rfl trivial
    · rw [if_neg h2]; exact refuse _ _ _ _ _ rfl rfl rfl rfl rfl trivial
  · exact keep _ (List.forall_mem_nil _)

theorem onAck_cases {P : Srv → List Out → Prop} (e : Env) (s : Srv) (conn now : Nat) (q : Req)
    (keep : ∀ outs, (∀ o ∈ outs, Plain o) → P s outs)
    (stop : ∀ s' outs, s'.st = .idle ∨ s'.st = .sendAbort → (∀ o ∈ outs, Plain o) → P s' outs)
    (success : s.st = .waitFileAck → ∀ s', s'.st = .idle → P s' (if s.selected then [.complete true] else []))
    (nack : s.st = .waitSectionAck →
      P { s with secOff := 0, secChk := 0, lastSend := now, st := .transmit }
        [.send conn q.oa s.ca s.ioa s.nof (.sectionReady s.secNo s.secSize)])
    (last : s.st = .waitSectionAck → ∀ n, n = (s.secNo + 1) % 256 → sectionSize e.file ((n : Int) - 1) = 0 →
      P { s with fileChk := (s.fileChk + s.secChk) % 256, secNo := n, secOff := 0, lastSend := now, st := .waitFileAck,
                 secChk := 0 }
        [.send conn q.oa s.ca s.ioa s.nof (.lastSection n ((s.fileChk + s.secChk) % 256))])
    (next : s.st = .waitSectionAck → ∀ n k, n = (s.secNo + 1) % 256 → k = sectionSize e.file ((n : Int) - 1) → k ≠ 0 →
      P { s with fileChk := (s.fileChk + s.secChk) % 256, secNo := n, secOff := 0, secSize := k, lastSend := now,
                 st := .waitSectionCall, secChk := 0 }
        [.send conn q.oa s.ca s.ioa s.nof (.sectionReady n k)]) :
    P (onAck e s conn now q).1 (onAck e s conn now q).2 := by
  have abort : P { s with st := .sendAbort } [] := stop _ _ (.inr rfl) (List.forall_mem_nil _)
  -- `split` on an `if` is slow on a body with nested `let`s; `rw [if_pos]` is not
  unfold onAck
  by_cases hi : s.st = .idle
  · rw [if_pos hi]; exact keep _ (List.forall_mem_singleton.mpr trivial)
  rw [if_neg hi]
  split
  next afq _ =>
    by_cases h1 : afq = 1
    · rw [if_pos h1]
      by_cases hst : s.st = .waitFileAck
      · rw [if_pos hst]; exact success hst _ rfl
      · rw [if_neg hst]; exact abort
    rw [if_neg h1]
    by_cases h2 : afq % 16 = 2
    · rw [if_pos h2]
      by_cases hst : s.st = .waitFileAck
      · rw [if_pos hst]; exact stop _ _ (.inl rfl) (forall_mem_ite trivial)
      · rw [if_neg hst]; exact abort
    rw [if_neg h2]
    by_cases h4 : afq % 16 = 4
    · rw [if_pos h4]
      by_cases hst : s.st = .waitSectionAck
      · rw [if_pos hst]; exact nack hst
      · rw [if_neg hst]; exact abort
    rw [if_neg h4]
    by_cases h3 : afq % 16 = 3
    · rw [if_pos h3]
      by_cases hst : s.st = .waitSectionAck
      · rw [if_pos hst]
        dsimp only
        by_cases hz : sectionSize e.file (((s.secNo + 1) % 256 : Nat) - 1) = 0
        · rw [if_pos hz]; exact last hst _ rfl hz
        · rw [if_neg hz]; exact next hst _ _ rfl rfl hz
      · rw [if_neg hst]; exact abort
    rw [if_neg h3]; exact keep _ (List.forall_mem_nil _)
  · exact keep _ (List.forall_mem_nil _)

theorem onCallSel_cases {P : Srv → List Out → Prop} (e : Env) (s : Srv) (conn now : Nat) (q : Req)
    (keep : ∀ s' outs, Kept s s' → (∀ o ∈ outs, Plain o) → P s' outs)
    (select : s.st = .idle → ∀ s' pre c oa ca ioa nof lof, s'.st = .waitFileCall → (∀ o ∈ pre, Plain o) →
      P s' (pre ++ [.send c oa ca ioa nof (.fileReady lof true)]))
    (callFile : s.st = .waitFileCall →
      P { s with secNo := 1, secOff := 0, secChk := 0, fileChk := 0, secSize := sectionSize e.file 0, lastSend := now,
                 st := .waitSectionCall }
        [.send conn q.oa s.ca s.ioa s.nof (.sectionReady 1 (sectionSize e.file 0))])
    (decline : q.neg = true → ∀ s' m, s'.st = .waitSectionCall ∨ s'.st = .waitFileAck →
      (∃ n k, m = .sectionReady n k ∨ m = .lastSection n k) → P s' [.send conn q.oa s.ca s.ioa s.nof m])
    (callSection : s.st = .waitSectionCall → 0 < sectionSize e.file ((s.secNo : Int) - 1) →
      P { s with secSize := sectionSize e.file ((s.secNo : Int) - 1), secOff := 0, st := .transmit } []) :
    P (onCallSel e s conn now q).1 (onCallSel e s conn now q).2 := by
  have nil : P s [] := keep s [] .rfl (List.forall_mem_nil _)
  have mirror : ∀ c, P s [.mirror conn c true] := fun c => keep s _ .rfl (List.forall_mem_singleton.mpr trivial)
  unfold onCallSel
  by_cases hc : q.cot ≠ cotFile
  · rw [if_pos hc]; exact nil
  rw [if_neg hc]
  split
  next ioa nof nos scq _ =>
    dsimp only
    by_cases h1 : scq = 1
    · rw [if_pos h1]
      by_cases hst : s.st = .idle
      · rw [if_pos hst]
        have cb : ∀ o ∈ (if e.hasFiles then [Out.getFile q.ca ioa nof] else []), Plain o := forall_mem_ite trivial
        generalize e.getFile q.ca ioa nof = found
        obtain ⟨_ | _, err⟩ := found
        · have cb' : ∀ (o' : Out), Plain o' → ∀ o ∈ (if e.hasFiles then [Out.getFile q.ca ioa nof] else []) ++ [o'], Plain o :=
            fun o' h' => List.forall_mem_append.mpr ⟨cb, List.forall_mem_singleton.mpr h'⟩
          dsimp only
          by_cases e1 : err = 1
          · rw [if_pos e1]; exact keep _ _ .rfl (cb' _ trivial)
          rw [if_neg e1]
          by_cases e2 : err = 2
          · rw [if_pos e2]; exact keep _ _ .rfl (cb' _ trivial)
          · rw [if_neg e2]; exact keep _ _ ⟨rfl, rfl, rfl, rfl, rfl, rfl, rfl, rfl, rfl⟩ (cb' _ trivial)
        · exact select hst _ _ _ _ _ _ _ _ rfl cb
      · rw [if_neg hst]; exact nil
    rw [if_neg h1]
    by_cases h3 : scq = 3
    · rw [if_pos h3]
      by_cases hst : s.st = .idle
      · rw [if_pos hst]; exact keep _ _ ⟨rfl, rfl, rfl, rfl, rfl, rfl, rfl, rfl, rfl⟩ (List.forall_mem_nil _)
      · rw [if_neg hst]; exact nil
    rw [if_neg h3]
    by_cases h2 : scq = 2
    · rw [if_pos h2]
      by_cases hst : s.st = .waitFileCall
      · rw [if_pos hst]
        by_cases hid : ioa ≠ s.ioa ∨ q.ca ≠ s.ca
        · rw [if_pos hid]; exact mirror _
        · rw [if_neg hid]; exact callFile hst
      · rw [if_neg hst]; exact nil
    rw [if_neg h2]
    by_cases h6 : scq = 6
    · rw [if_pos h6]
      by_cases hst : s.st = .waitSectionCall
      · rw [if_pos hst]
        by_cases hid : ioa ≠ s.ioa ∨ q.ca ≠ s.ca
        · rw [if_pos hid]; exact mirror _
        rw [if_neg hid]
        by_cases hneg : q.neg = true
        · rw [if_pos hneg]
          by_cases hk : sectionSize e.file (((s.secNo + 1) % 256 : Nat) - 1) > 0
          · rw [if_pos hk]; exact decline hneg _ _ (.inl rfl) ⟨_, _, .inl rfl⟩
          · rw [if_neg hk]; exact decline hneg _ _ (.inr rfl) ⟨_, _, .inr rfl⟩
        · rw [if_neg hneg]
          by_cases hk : nos = s.secNo ∧ sectionSize e.file ((nos : Int) - 1) > 0
          · rw [if_pos hk]; obtain ⟨rfl, hp⟩ := hk; exact callSection hst hp
          · rw [if_neg hk]; exact keep _ _ ⟨rfl, rfl, rfl, rfl, rfl, rfl, rfl, rfl, rfl⟩ (List.forall_mem_singleton.mpr trivial)
      · rw [if_neg hst]; exact nil
    rw [if_neg h6]; exact nil
  · exact nil

/-- LSQ 2 abandons the upload, LSQ 3 closes a section, LSQ 1 the file -/
theorem onLastSeg_cases {P : Srv → List Out → Prop} (s : Srv) (conn now : Nat) (q : Req)
    (keep : P s [])
    (abort : ∀ s', s'.st = .idle → P s' (if s.receiver then [.finished 8] else []))
    (accept : s.st = .receiveSection → ∀ ioa nof nos chs, q.obj = some (.lastSeg ioa nof nos 3 chs) →
      s.secOff = s.secSize ∧ chs = s.secChk →
      P { s with recvLen := s.recvLen + s.secSize, fileChk := (s.fileChk + s.secChk) % 256, lastSend := now,
                 st := .waitSectionReady }
        [s.send conn q.oa (.ack nos 3)])
    (refuse : s.st = .receiveSection → ∀ nos,
      P { s with lastSend := now, st := .waitSectionReady } [s.send conn q.oa (.ack nos 4)])
    (verdict : s.st = .waitSectionReady → ∀ nos chs,
      P { s with lastSend := now, st := .idle }
        ([s.send conn q.oa (.ack nos (if s.recvLen = s.expLen ∧ chs = s.fileChk then 1 else 2))] ++
          if s.receiver then [.finished (if s.recvLen = s.expLen ∧ chs = s.fileChk then 0 else 7)] else [])) :
    P (onLastSeg s conn now q).1 (onLastSeg s conn now q).2 := by
  unfold onLastSeg
  split
  next ioa nof nos lsq chs hq =>
    by_cases hr : s.st = .receiveSection
    · rw [if_pos hr]
      by_cases h3 : lsq = 3
      · subst h3; rw [if_pos rfl]
        by_cases hok : s.secOff = s.secSize ∧ chs = s.secChk
        · rw [if_pos hok]; exact accept hr _ _ _ _ hq hok
        · rw [if_neg hok]; exact refuse hr _
      rw [if_neg h3]
      by_cases h2 : lsq = 2
      · rw [if_pos h2]; exact abort _ rfl
      · rw [if_neg h2]; exact keep
    rw [if_neg hr]
    by_cases hw : s.st = .waitSectionReady
    · rw [if_pos hw]
      by_cases h1 : lsq = 1
      · rw [if_pos h1]; exact verdict hw _ _
      rw [if_neg h1]
      by_cases h2 : lsq = 2
      · rw [if_pos h2]; exact abort _ rfl
      · rw [if_neg h2]; exact keep
    · rw [if_neg hw]; exact keep
  · exact keep

end Iec.FileSrv
