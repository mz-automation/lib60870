import Iec.Lemmas.FileSrvSafety
/-
Upload direction (the master sends a file to the receiver callback): an observer `Ux` over the
emitted events, the invariant `GoodU` that couples it with the server state for ARBITRARY
histories, and the trace of a procedure-following upload.
-/
namespace Iec.FileSrv

/-- what an observer of the application side and of the wire knows about the upload in progress -/
structure Ux where
  /-- file length announced with the last FILE READY handed to the application -/
  lof : Nat
  /-- octets of the sections acknowledged positively so far -/
  acked : List Nat
  /-- octets delivered to the receiver in the section pass in progress -/
  pass : List Nat
  /-- every segment was delivered at the offset = number of octets delivered before it in its pass -/
  ok : Bool
  deriving Repr, DecidableEq

def uxStep (u : Ux) : Out → Ux
  | .readyCb _ _ _ lof => { lof := lof, acked := [], pass := [], ok := true }
  | .send _ _ _ _ _ (.callSection _) => { u with pass := [] }
  | .segRecv _ off d => { u with ok := u.ok && (off == u.pass.length), pass := u.pass ++ d }
  | .send _ _ _ _ _ (.ack _ 3) => { u with acked := u.acked ++ u.pass, pass := [] }
  | .send _ _ _ _ _ (.ack _ 4) => { u with pass := [] }
  | _ => u

def uxFold (u : Ux) (outs : List Out) : Ux := outs.foldl uxStep u

structure GoodU (s : Srv) (u : Ux) : Prop where
  okk : u.ok = true
  up : (s.st = .waitSectionReady ∨ s.st = .receiveSection) → s.receiver = true →
    s.expLen = u.lof ∧ s.recvLen = u.acked.length ∧ s.fileChk = chk u.acked
  rs : s.st = .receiveSection → s.receiver = true → s.secOff = u.pass.length ∧ s.secChk = chk u.pass

def NoUp (st : St) : Prop := st ≠ .waitSectionReady ∧ st ≠ .receiveSection

theorem GoodU.of_noup {s : Srv} {u : Ux} (h : NoUp s.st) (hok : u.ok = true) : GoodU s u :=
  ⟨hok, fun h' _ => by rcases h' with h' | h' <;> simp [NoUp, h'] at h, fun h' _ => by simp [NoUp, h'] at h⟩

theorem GoodU.congr {s s' : Srv} {u : Ux} (g : GoodU s u) (hst : s'.st = s.st) (hr : s'.receiver = s.receiver)
    (h1 : s'.expLen = s.expLen) (h2 : s'.recvLen = s.recvLen) (h3 : s'.fileChk = s.fileChk)
    (h4 : s'.secOff = s.secOff) (h5 : s'.secChk = s.secChk) : GoodU s' u := by
  refine ⟨g.okk, ?_, ?_⟩
  · intro h hr'; rw [hst] at h; rw [hr] at hr'; rw [h1, h2, h3]; exact g.up h hr'
  · intro h hr'; rw [hst] at h; rw [hr] at hr'; rw [h4, h5]; exact g.rs h hr'

theorem GoodU.expire {s : Srv} {u : Ux} (g : GoodU s u) (now : Nat) : GoodU (s.expire now) u := by
  unfold Srv.expire
  split
  · exact GoodU.of_noup (by simp [NoUp]) g.okk
  · exact g

def QuietU (o : Out) : Prop := ∀ u, uxStep u o = u

theorem uxFold_quiet (u : Ux) (outs : List Out) (h : ∀ o ∈ outs, QuietU o) : uxFold u outs = u := by
  induction outs with
  | nil => rfl
  | cons o os ih =>
    show uxFold (uxStep u o) os = u
    rw [h o (by simp)]
    exact ih fun o' ho' => h o' (by simp [ho'])

theorem Plain.quietU {o : Out} (h : Plain o) : QuietU o ∧ o ≠ .finished 0 := by
  unfold Plain at h; split at h <;> first | exact ⟨fun _ => rfl, nofun⟩ | cases h

/-- a step as the upload sees it when it is not a move of the upload: it emits nothing the observer reads,
reports no success, and keeps the bookkeeping or ends outside an upload -/
structure KeepsUl (s : Srv) (res : Srv × List Out) : Prop where
  out : ∀ o ∈ res.2, QuietU o ∧ o ≠ .finished 0
  st : Kept s res.1 ∨ NoUp res.1.st

theorem KeepsUl.of_kept {s s' : Srv} {outs : List Out} (k : Kept s s') (hp : ∀ o ∈ outs, Plain o) : KeepsUl s (s', outs) :=
  ⟨fun o h => (hp o h).quietU, .inl k⟩

theorem KeepsUl.of_noup {s s' : Srv} {outs : List Out} (h : NoUp s'.st) (ho : ∀ o ∈ outs, QuietU o ∧ o ≠ .finished 0) :
    KeepsUl s (s', outs) := ⟨ho, .inr h⟩

theorem GoodU.frame {s : Srv} {u : Ux} {res : Srv × List Out} (g : GoodU s u) (k : KeepsUl s res) :
    GoodU res.1 (uxFold u res.2) := by
  rw [uxFold_quiet u _ (fun o h => (k.out o h).1)]
  rcases k.st with k | h
  · exact g.congr k.st k.receiver k.expLen k.recvLen k.fileChk k.secOff k.secChk
  · exact .of_noup h g.okk

theorem onAck_keepsUl (e : Env) (s : Srv) (conn now : Nat) (q : Req) : KeepsUl s (onAck e s conn now q) :=
  onAck_cases (P := fun s' outs => KeepsUl s (s', outs)) e s conn now q
    (fun _ hp => .of_kept .rfl hp)
    (fun _ _ h hp => .of_noup (by rcases h with h | h <;> simp [NoUp, h]) fun o ho => (hp o ho).quietU)
    (fun _ _ h => .of_noup (by simp [NoUp, h]) (forall_mem_ite ⟨fun _ => rfl, nofun⟩))
    (fun _ => .of_noup (by simp [NoUp]) (List.forall_mem_singleton.mpr ⟨fun _ => rfl, nofun⟩))
    (fun _ _ _ _ => .of_noup (by simp [NoUp]) (List.forall_mem_singleton.mpr ⟨fun _ => rfl, nofun⟩))
    (fun _ _ _ _ _ _ => .of_noup (by simp [NoUp]) (List.forall_mem_singleton.mpr ⟨fun _ => rfl, nofun⟩))

theorem onCallSel_keepsUl (e : Env) (s : Srv) (conn now : Nat) (q : Req) : KeepsUl s (onCallSel e s conn now q) :=
  onCallSel_cases (P := fun s' outs => KeepsUl s (s', outs)) e s conn now q
    (fun _ _ k hp => .of_kept k hp)
    (fun _ _ _ _ _ _ _ _ _ h hp => .of_noup (by simp [NoUp, h]) (List.forall_mem_append.mpr
      ⟨fun o ho => (hp o ho).quietU, List.forall_mem_singleton.mpr ⟨fun _ => rfl, nofun⟩⟩))
    (fun _ => .of_noup (by simp [NoUp]) (List.forall_mem_singleton.mpr ⟨fun _ => rfl, nofun⟩))
    (fun _ _ _ h hm => .of_noup (by rcases h with h | h <;> simp [NoUp, h])
      (by obtain ⟨_, _, rfl | rfl⟩ := hm <;> exact List.forall_mem_singleton.mpr ⟨fun _ => rfl, nofun⟩))
    (fun _ _ => .of_noup (by simp [NoUp]) (List.forall_mem_nil _))

theorem runTask_keepsUl (e : Env) (s : Srv) (conn now : Nat) : KeepsUl s (runTask e s conn now) := by
  refine ⟨fun o ho => ?_, ?_⟩
  · obtain ⟨_, ⟨_, rfl⟩ | ⟨_, rfl⟩⟩ := runTask_out ho <;> exact ⟨fun _ => rfl, nofun⟩
  · unfold runTask
    by_cases hi : s.st = .idle
    · rw [if_pos hi]; exact .inl .rfl
    · rw [if_neg hi]
      dsimp only
      split
      · exact .inr (by simp [NoUp])
      · show Kept s (pumpStep e s conn now).1 ∨ NoUp (pumpStep e s conn now).1.st
        unfold pumpStep
        by_cases hp : s.st = .transmit ∧ s.selConn = some conn ∧ s.selected = true
        · rw [if_pos hp]
          dsimp only
          by_cases hleft : s.secSize - s.secOff > 0
          · rw [if_pos hleft]; exact .inr (by simp [NoUp, hp.1])
          · rw [if_neg hleft]; exact .inr (by simp [NoUp])
        · rw [if_neg hp]; exact .inl .rfl

theorem onFileReady_goodu {e : Env} {s : Srv} {u : Ux} (g : GoodU s u) (conn now : Nat) (q : Req) :
    GoodU (onFileReady e s conn now q).1 (uxFold u (onFileReady e s conn now q).2) :=
  onFileReady_cases (P := fun s' outs => GoodU s' (uxFold u outs)) e s conn now q
    (fun _ hp => by rw [uxFold_quiet u _ fun o h => (hp o h).quietU.1]; exact g)
    -- accepted: the observer and the server start afresh
    (fun _ _ _ => ⟨rfl, fun _ _ => ⟨rfl, rfl, rfl⟩, fun h => nomatch h⟩)
    -- refused: no receiver, whatever state the server is in
    (fun _ _ _ s' o hr _ _ _ _ hp => by
      rw [show uxFold u [_, o] = _ from hp.quietU.1 _]
      exact ⟨rfl, fun _ h => Bool.noConfusion (hr.symm.trans h), fun _ h => Bool.noConfusion (hr.symm.trans h)⟩)

theorem onSectionReady_goodu {s : Srv} {u : Ux} (g : GoodU s u) (conn now : Nat) (q : Req) :
    GoodU (onSectionReady s conn now q).1 (uxFold u (onSectionReady s conn now q).2) := by
  unfold onSectionReady
  by_cases hst : s.st = .waitSectionReady
  · rw [if_pos hst]
    split
    · exact ⟨g.okk, fun _ hr => g.up (.inl hst) hr, fun _ _ => ⟨rfl, rfl⟩⟩
    · exact g
  · rw [if_neg hst]; exact g

theorem onSegment_goodu {s : Srv} {u : Ux} (g : GoodU s u) (now : Nat) (q : Req) :
    GoodU (onSegment s now q).1 (uxFold u (onSegment s now q).2) := by
  unfold onSegment
  by_cases hst : s.st = .receiveSection
  · rw [if_pos hst]
    split
    · next data _ =>
      by_cases hr : s.receiver = true
      · rw [if_pos hr]
        obtain ⟨hoff, hchk⟩ := g.rs hst hr
        refine ⟨?_, fun _ _ => g.up (.inr hst) hr, fun _ _ => ⟨?_, ?_⟩⟩
        · show (u.ok && (s.secOff == u.pass.length)) = true
          rw [g.okk, hoff, beq_self_eq_true]; rfl
        · show s.secOff + data.length = (u.pass ++ data).length
          rw [hoff, List.length_append]
        · show (s.secChk + chk data) % 256 = chk (u.pass ++ data)
          rw [hchk, chk_append]
      · rw [if_neg hr]; exact ⟨g.okk, fun _ hr' => absurd hr' hr, fun _ hr' => absurd hr' hr⟩
    · exact g
  · rw [if_neg hst]; exact g

theorem onLastSeg_goodu {s : Srv} {u : Ux} (g : GoodU s u) (conn now : Nat) (q : Req) :
    GoodU (onLastSeg s conn now q).1 (uxFold u (onLastSeg s conn now q).2) := by
  have idle : ∀ {s' : Srv} {outs}, s'.st = .idle → (∀ o ∈ outs, QuietU o) → GoodU s' (uxFold u outs) :=
    fun h ho => by rw [uxFold_quiet u _ ho]; exact .of_noup (by simp [NoUp, h]) g.okk
  refine onLastSeg_cases (P := fun s' outs => GoodU s' (uxFold u outs)) s conn now q g
    (fun _ h => idle h (forall_mem_ite fun _ => rfl)) (fun hst _ _ nos _ _ hc => ?accept)
    (fun hst nos => ⟨g.okk, fun _ hr => g.up (.inr hst) hr, fun h => nomatch h⟩)
    (fun _ _ _ => idle rfl (List.forall_mem_append.mpr
      ⟨List.forall_mem_singleton.mpr (by split <;> exact fun _ => rfl), forall_mem_ite fun _ => rfl⟩))
  refine ⟨g.okk, fun _ hr => ?_, fun h => nomatch h⟩
  obtain ⟨h1, h2, h3⟩ := g.up (.inr hst) hr
  obtain ⟨h4, h5⟩ := g.rs hst hr
  refine ⟨h1, ?_, ?_⟩
  · show s.recvLen + s.secSize = (u.acked ++ u.pass).length
    rw [List.length_append, h2, ← h4, hc.1]
  · show (s.fileChk + s.secChk) % 256 = chk (u.acked ++ u.pass)
    rw [h3, h5, chk_append]

theorem onFileReady_nf (e : Env) (s : Srv) (conn now : Nat) (q : Req) : Out.finished 0 ∉ (onFileReady e s conn now q).2 :=
  onFileReady_cases (P := fun _ outs => Out.finished 0 ∉ outs) e s conn now q
    (fun _ hp h => (hp _ h).quietU.2 rfl) (fun _ _ _ => by simp)
    (fun _ _ _ _ _ _ _ _ _ _ hp h => by
      rcases List.mem_cons.mp h with h | h
      · cases h
      · exact hp.quietU.2 (List.mem_singleton.mp h).symm)

theorem onSectionReady_nf (s : Srv) (conn now : Nat) (q : Req) : Out.finished 0 ∉ (onSectionReady s conn now q).2 := by
  unfold onSectionReady
  by_cases hst : s.st = .waitSectionReady
  · rw [if_pos hst]
    split
    · exact fun h => nomatch List.mem_singleton.mp h
    · exact List.not_mem_nil
  · rw [if_neg hst]; exact List.not_mem_nil

theorem onSegment_nf (s : Srv) (now : Nat) (q : Req) : Out.finished 0 ∉ (onSegment s now q).2 := by
  unfold onSegment
  by_cases hst : s.st = .receiveSection
  · rw [if_pos hst]
    split
    · split
      · exact fun h => nomatch List.mem_singleton.mp h
      · exact List.not_mem_nil
    · exact List.not_mem_nil
  · rw [if_neg hst]; exact List.not_mem_nil

/-- `QuietU o`: the file ACK that precedes the report within the step does not move the observer, so `SafeUp` can be
checked against the observer before the step (`step_safeUp`) -/
theorem onLastSeg_fin {s : Srv} {u : Ux} (g : GoodU s u) (conn now : Nat) (q : Req)
    (h : Out.finished 0 ∈ (onLastSeg s conn now q).2) :
    u.acked.length = u.lof ∧ ∃ o, (onLastSeg s conn now q).2 = [o, Out.finished 0] ∧ QuietU o := by
  revert h
  refine onLastSeg_cases (P := fun _ outs => Out.finished 0 ∈ outs → u.acked.length = u.lof ∧
      ∃ o, outs = [o, Out.finished 0] ∧ QuietU o) s conn now q (fun h => (List.not_mem_nil h).elim)
    (fun _ _ => by split <;> simp) (fun _ _ _ _ _ _ _ => by simp [Srv.send]) (fun _ _ => by simp [Srv.send]) (fun hst nos chs h => ?_)
  by_cases hr : s.receiver = true
  · by_cases hc : s.recvLen = s.expLen ∧ chs = s.fileChk
    · obtain ⟨h1, h2, -⟩ := g.up (.inl hst) hr
      rw [if_pos hr, if_pos hc, if_pos hc]
      exact ⟨by rw [← h2, hc.1, h1], _, rfl, fun _ => rfl⟩
    · rw [if_pos hr, if_neg hc, if_neg hc] at h; simp [Srv.send] at h
  · rw [if_neg hr] at h; simp [Srv.send] at h

/-- at every `finished(SUCCESS)` in the trace the observer has seen as many acknowledged octets as were
announced, and every segment so far was delivered at the right offset -/
def SafeUp : Ux → List Out → Prop
  | _, [] => True
  | u, o :: os => (o = Out.finished 0 → u.acked.length = u.lof ∧ u.ok = true) ∧ SafeUp (uxStep u o) os

theorem safeUp_append : ∀ (a b : List Out) (u : Ux), SafeUp u (a ++ b) ↔ SafeUp u a ∧ SafeUp (uxFold u a) b := by
  intro a
  induction a with
  | nil => intro b u; simp [SafeUp, uxFold]
  | cons o os ih => intro b u; simp [SafeUp, uxFold, ih, and_assoc]

theorem safeUp_nf : ∀ (a : List Out) (u : Ux), Out.finished 0 ∉ a → SafeUp u a := by
  intro a
  induction a with
  | nil => intro _ _; trivial
  | cons o os ih => exact fun u h => ⟨fun ho => absurd (by simp [ho]) h, ih _ fun h' => h (by simp [h'])⟩

theorem step_goodu {e : Env} {s : Srv} {u : Ux} (g : GoodU s u) (op : Op) :
    GoodU (step e s op).1 (uxFold u (step e s op).2) ∧
    (Out.finished 0 ∈ (step e s op).2 → u.acked.length = u.lof) := by
  have foreign : ∀ {s' res}, GoodU s' u → KeepsUl s' res →
      GoodU res.1 (uxFold u res.2) ∧ (Out.finished 0 ∈ res.2 → u.acked.length = u.lof) :=
    fun g k => ⟨g.frame k, fun h => absurd rfl (k.out _ h).2⟩
  exact step_cases (P := fun res => GoodU res.1 (uxFold u res.2) ∧ (Out.finished 0 ∈ res.2 → u.acked.length = u.lof))
    op ⟨g, fun h => (List.not_mem_nil h).elim⟩ (fun _ _ => foreign g (runTask_keepsUl ..))
    (fun c n q => ⟨onFileReady_goodu (g.expire n) c n q, fun h => absurd h (onFileReady_nf _ _ _ _ _)⟩)
    (fun c n q => ⟨onSectionReady_goodu (g.expire n) c n q, fun h => absurd h (onSectionReady_nf _ _ _ _)⟩)
    (fun n q => ⟨onSegment_goodu (g.expire n) n q, fun h => absurd h (onSegment_nf _ _ _)⟩)
    (fun c n q => ⟨onLastSeg_goodu (g.expire n) c n q, fun h => (onLastSeg_fin (g.expire n) c n q h).1⟩)
    (fun _ n _ => foreign (g.expire n) (onAck_keepsUl ..))
    (fun _ n _ _ _ => foreign (g.expire n) (onCallSel_keepsUl ..)) (fun n => ⟨g.expire n, fun h => (List.not_mem_nil h).elim⟩)

theorem step_safeUp {e : Env} {s : Srv} {u : Ux} (g : GoodU s u) (op : Op) : SafeUp u (step e s op).2 := by
  have foreign : ∀ {s' res}, KeepsUl s' res → SafeUp u res.2 := fun k => safeUp_nf _ _ fun h => (k.out _ h).2 rfl
  refine step_cases (P := fun res => SafeUp u res.2) op trivial (fun _ _ => foreign (runTask_keepsUl ..))
    (fun _ _ _ => safeUp_nf _ _ (onFileReady_nf _ _ _ _ _)) (fun _ _ _ => safeUp_nf _ _ (onSectionReady_nf _ _ _ _))
    (fun _ _ => safeUp_nf _ _ (onSegment_nf _ _ _)) (fun c n q => ?_)
    (fun _ _ _ => foreign (onAck_keepsUl ..)) (fun _ _ _ _ _ => foreign (onCallSel_keepsUl ..)) (fun _ => trivial)
  by_cases hf : Out.finished 0 ∈ (onLastSeg (s.expire n) c n q).2
  · obtain ⟨hlen, o, ho, hq⟩ := onLastSeg_fin (g.expire n) c n q hf
    rw [ho]
    exact ⟨fun h => ⟨hlen, g.okk⟩, fun _ => by rw [hq]; exact ⟨hlen, g.okk⟩, trivial⟩
  · exact safeUp_nf _ _ hf

theorem run_safeUp {e : Env} : ∀ (ops : List Op) (s : Srv) (u : Ux), GoodU s u → SafeUp u (run e s ops).2 := by
  intro ops
  induction ops with
  | nil => intro s u _; trivial
  | cons op ops ih =>
    intro s u g
    rw [run_cons, safeUp_append]
    exact ⟨step_safeUp g op, ih _ _ (step_goodu g op).1⟩


structure UpId where
  ca : Nat
  ioa : Nat
  nof : Nat
  oa : Nat

def uFileReady (i : UpId) (lof : Nat) : Req :=
  { tid := 120, cot := cotFile, neg := false, ca := i.ca, oa := i.oa, obj := some (.fileReady i.ioa i.nof lof 0) }
def uSectionReady (i : UpId) (nos los : Nat) : Req :=
  { tid := 121, cot := cotFile, neg := false, ca := i.ca, oa := i.oa, obj := some (.sectionReady i.ioa i.nof nos los 0) }
def uSegment (i : UpId) (nos : Nat) (d : List Nat) : Req :=
  { tid := 125, cot := cotFile, neg := false, ca := i.ca, oa := i.oa, obj := some (.segment i.ioa i.nof nos d) }
def uLast (i : UpId) (nos lsq chs : Nat) : Req :=
  { tid := 123, cot := cotFile, neg := false, ca := i.ca, oa := i.oa, obj := some (.lastSeg i.ioa i.nof nos lsq chs) }

/-- the receiver callbacks for the segments of one section, `off` octets of it already delivered -/
def segRecvs (n : Nat) : Nat → List (List Nat) → List Out
  | _, [] => []
  | off, d :: ds => Out.segRecv n off d :: segRecvs n (off + d.length) ds

/-- requests for the sections `secs` (each a list of segments), the first named `n` -/
def upSecOps (i : UpId) (conn now : Nat) : Nat → List (List (List Nat)) → List Op
  | _, [] => []
  | n, segs :: rest =>
    Op.asdu conn now (uSectionReady i n segs.flatten.length) ::
      (segs.map (fun d => Op.asdu conn now (uSegment i n d)) ++
        (Op.asdu conn now (uLast i n 3 (chk segs.flatten)) :: upSecOps i conn now (n + 1) rest))

def upSecOut (i : UpId) (conn : Nat) : Nat → List (List (List Nat)) → List Out
  | _, [] => []
  | n, segs :: rest =>
    Out.send conn i.oa i.ca i.ioa i.nof (.callSection n) ::
      (segRecvs n 0 segs ++ (Out.send conn i.oa i.ca i.ioa i.nof (.ack n 3) :: upSecOut i conn (n + 1) rest))

/-- facts that stay true during an upload at (virtual) time `now` -/
structure Up (s : Srv) (i : UpId) (now : Nat) : Prop where
  rcv : s.receiver = true
  ca : s.ca = i.ca
  ioa : s.ioa = i.ioa
  nof : s.nof = i.nof
  last : s.lastSend = now

theorem segments_run (e : Env) (i : UpId) (conn now n : Nat) : ∀ (segs : List (List Nat)) (s : Srv),
    Up s i now → s.st = .receiveSection → s.secChk < 256 →
    ∃ s', run e s (segs.map (fun d => Op.asdu conn now (uSegment i n d))) = (s', segRecvs n s.secOff segs) ∧
      Up s' i now ∧ s'.st = .receiveSection ∧ s'.secOff = s.secOff + segs.flatten.length ∧
      s'.secChk = (s.secChk + chk segs.flatten) % 256 ∧ s'.secSize = s.secSize ∧ s'.recvLen = s.recvLen ∧
      s'.fileChk = s.fileChk ∧ s'.expLen = s.expLen ∧ s'.secNo = s.secNo := by
  intro segs
  induction segs with
  | nil => intro s hu hst hc; exact ⟨s, rfl, hu, hst, rfl, (Nat.mod_eq_of_lt hc).symm, rfl, rfl, rfl, rfl, rfl⟩
  | cons d ds ih =>
    intro s hu hst hc
    let s1 : Srv := { s with secOff := s.secOff + d.length, secChk := (s.secChk + chk d) % 256, lastSend := now }
    have h1 : step e s (Op.asdu conn now (uSegment i n d)) = (s1, [Out.segRecv n s.secOff d]) := by
      simp [step, handleAsdu, uSegment, no_expiry s now hu.last, onSegment, hst, hu.rcv, s1]
    obtain ⟨s2, h2, hu2, hst2, hoff2, hchk2, r⟩ := ih s1 ⟨hu.rcv, hu.ca, hu.ioa, hu.nof, rfl⟩ hst (Nat.mod_lt _ (by omega))
    exact ⟨s2, run_cons_eq h1 h2, hu2, hst2, hoff2.trans (by simp [s1, Nat.add_assoc]), hchk2.trans (chk_acc ..), r⟩

theorem upSections_run (e : Env) (i : UpId) (conn now : Nat) : ∀ (secs : List (List (List Nat))) (n : Nat) (s : Srv),
    Up s i now → s.st = .waitSectionReady → s.fileChk < 256 →
    ∃ s', run e s (upSecOps i conn now n secs) = (s', upSecOut i conn n secs) ∧
      Up s' i now ∧ s'.st = .waitSectionReady ∧ s'.expLen = s.expLen ∧
      s'.recvLen = s.recvLen + (secs.map List.flatten).flatten.length ∧
      s'.fileChk = (s.fileChk + chk (secs.map List.flatten).flatten) % 256 := by
  intro secs
  induction secs with
  | nil => intro n s hu hst hc; exact ⟨s, rfl, hu, hst, rfl, rfl, (Nat.mod_eq_of_lt hc).symm⟩
  | cons segs rest ih =>
    intro n s hu hst hc
    -- SECTION READY
    let s1 : Srv := { s with secNo := n, secOff := 0, secChk := 0, secSize := segs.flatten.length, lastSend := now,
                             st := .receiveSection }
    have h1 : step e s (Op.asdu conn now (uSectionReady i n segs.flatten.length)) =
        (s1, [Out.send conn i.oa i.ca i.ioa i.nof (.callSection n)]) := by
      simp [step, handleAsdu, uSectionReady, no_expiry s now hu.last, onSectionReady, hst, Srv.send, hu.ca, hu.ioa, hu.nof, s1]
    -- segments
    obtain ⟨s2, h2, hu2, hst2, hoff2, hchk2, hsz2, hrl2, hfc2, hel2, _⟩ :=
      segments_run e i conn now n segs s1 ⟨hu.rcv, hu.ca, hu.ioa, hu.nof, rfl⟩ rfl (Nat.zero_lt_succ _)
    replace hoff2 : s2.secOff = segs.flatten.length := hoff2.trans (Nat.zero_add _)
    replace hchk2 : s2.secChk = chk segs.flatten := hchk2.trans (chk_from_zero _)
    replace hsz2 : s2.secSize = segs.flatten.length := hsz2
    -- LAST SEGMENT: complete and unchanged, so the section is acknowledged positively
    let s3 : Srv := { s2 with recvLen := s2.recvLen + s2.secSize, fileChk := (s2.fileChk + s2.secChk) % 256, lastSend := now,
                              st := .waitSectionReady }
    have h3 : step e s2 (Op.asdu conn now (uLast i n 3 (chk segs.flatten))) =
        (s3, [Out.send conn i.oa i.ca i.ioa i.nof (.ack n 3)]) := by
      simp [step, handleAsdu, uLast, no_expiry s2 now hu2.last, onLastSeg, hst2, hoff2, hsz2, hchk2, Srv.send,
        hu2.ca, hu2.ioa, hu2.nof, s3]
    obtain ⟨s4, h4, hu4, hst4, hel4, hrl4, hfc4⟩ := ih (n + 1) s3 ⟨hu2.rcv, hu2.ca, hu2.ioa, hu2.nof, rfl⟩ rfl (Nat.mod_lt _ (by omega))
    refine ⟨s4, run_cons_eq h1 (run_append_eq h2 (run_cons_eq h3 h4)), hu4, hst4, hel4.trans hel2, hrl4.trans ?_, hfc4.trans ?_⟩
    · show s2.recvLen + s2.secSize + _ = _
      rw [hrl2, hsz2]; simp [s1, Nat.add_assoc]
    · show ((s2.fileChk + s2.secChk) % 256 + _) % 256 = _
      rw [hfc2, hchk2]; exact chk_acc ..

/-- a procedure-following master sending a file of the sections `secs` (each cut into segments any way it
likes), announced with its true length -/
def uploadOps (i : UpId) (conn now : Nat) (secs : List (List (List Nat))) : List Op :=
  Op.asdu conn now (uFileReady i (secs.map List.flatten).flatten.length) ::
    (upSecOps i conn now 1 secs ++ [Op.asdu conn now (uLast i secs.length 1 (chk (secs.map List.flatten).flatten))])

def uploadOut (i : UpId) (conn : Nat) (secs : List (List (List Nat))) : List Out :=
  Out.readyCb i.ca i.ioa i.nof (secs.map List.flatten).flatten.length :: Out.send conn i.oa i.ca i.ioa i.nof .callFile ::
    (upSecOut i conn 1 secs ++ [Out.send conn i.oa i.ca i.ioa i.nof (.ack secs.length 1), Out.finished 0])

/-- no hypothesis on `s0`: `onFileReady` accepts in every state -/
theorem upload_run (e : Env) (i : UpId) (conn now : Nat) (secs : List (List (List Nat))) (s0 : Srv)
    (hr : e.hasReady = true) (ha : e.accept = true) :
    ∃ s', run e s0 (uploadOps i conn now secs) = (s', uploadOut i conn secs) ∧ s'.st = .idle := by
  let se : Srv := s0.expire now
  let s1 : Srv := { se with receiver := true, ca := i.ca, ioa := i.ioa, oa := i.oa, nof := i.nof, fileChk := 0,
                            expLen := (secs.map List.flatten).flatten.length, recvLen := 0, lastSend := now,
                            st := .waitSectionReady }
  have h1 : step e s0 (Op.asdu conn now (uFileReady i (secs.map List.flatten).flatten.length)) =
      (s1, [Out.readyCb i.ca i.ioa i.nof (secs.map List.flatten).flatten.length, Out.send conn i.oa i.ca i.ioa i.nof .callFile]) := by
    simp [step, handleAsdu, uFileReady, onFileReady, hr, ha, Srv.send, s1, se]
  obtain ⟨s2, h2, hu2, hst2, hel2, hrl2, hfc2⟩ :=
    upSections_run e i conn now secs 1 s1 ⟨rfl, rfl, rfl, rfl, rfl⟩ rfl (Nat.zero_lt_succ _)
  have hrl : s2.recvLen = s2.expLen := hrl2.trans ((Nat.zero_add _).trans hel2.symm)
  have hfc : s2.fileChk = chk (secs.map List.flatten).flatten := hfc2.trans (chk_from_zero _)
  have h3 : step e s2 (Op.asdu conn now (uLast i secs.length 1 (chk (secs.map List.flatten).flatten))) =
      ({ s2 with lastSend := now, st := .idle }, [Out.send conn i.oa i.ca i.ioa i.nof (.ack secs.length 1), Out.finished 0]) := by
    simp [step, handleAsdu, uLast, no_expiry s2 now hu2.last, onLastSeg, hst2, hrl, hfc, Srv.send, hu2.ca, hu2.ioa, hu2.nof, hu2.rcv]
  exact ⟨_, run_cons_eq h1 (run_append_eq h2 (run_cons_eq h3 (run_nil e _))), rfl⟩

end Iec.FileSrv
