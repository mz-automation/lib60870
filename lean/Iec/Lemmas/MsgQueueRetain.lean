/-
Retention of the event ring (C06): a ring created for N entries (N * 272 octets; 272 = `HDR` + 256 is what
`MsgQueue.create` reserves per entry) that receives entries of one size holds at least N of them once N were
enqueued (`enqueueAll_count`); by `enqueueAll_refines` what is lost is a prefix, so these are the most recent ones.
On top of the layout invariant `MqInv`: with entries of one size e every offset is a multiple of e (a grid), a new
entry collides with at most ONE old entry, and it collides only when the ring is already full (the upper part ends
less than one entry below the buffer end).
-/
import Iec.Lemmas.MsgQueueOrder
namespace Iec.Queues

/-- grid facts kept between enqueues of equal-size entries, on the pointers alone: the oldest entry lies on the grid; once
the ring has wrapped (the newest entry lies below the oldest) no further entry fits behind the one with the highest offset -/
def Grid (q : MsgQueue) (e : Nat) : Prop :=
  e ∣ q.first.getD 0 ∧ (q.last.getD 0 < q.first.getD 0 → q.size < q.lib.getD 0 + 2 * e)

theorem chain_equal (e : Nat) : ∀ (xs : List MEntry) (o : Nat), MChain o xs → (∀ x ∈ xs, esz x = e) →
    mEnd o xs = o + xs.length * e ∧ (e ∣ o → ∀ x ∈ xs, e ∣ x.1) ∧ (xs ≠ [] → mEnd o xs = mLast xs + e) := by
  intro xs
  induction xs with
  | nil => intro o _ _; exact ⟨by simp [mEnd], by simp, absurd rfl⟩
  | cons y ys ih =>
    intro o hc hs
    have hey : esz y = e := hs y (by simp)
    obtain ⟨h1, h2, h3⟩ := ih (o + esz y) hc.2 (fun x hx => hs x (List.mem_cons_of_mem _ hx))
    refine ⟨?_, fun ho x hx => ?_, fun _ => ?_⟩
    · simp only [mEnd, List.length_cons]
      rw [h1, hey, Nat.succ_mul]; omega
    · rcases List.mem_cons.mp hx with rfl | hx
      · rw [hc.1]; exact ho
      · exact h2 (by rw [hey]; exact Nat.dvd_add ho (Nat.dvd_refl e)) x hx
    · by_cases hys : ys = []
      · subst hys; rw [show mLast [y] = y.1 from mLast_snoc [] y, hc.1, ← hey]; rfl
      · rw [show y :: ys = [y] ++ ys from rfl, mLast_append _ _ hys]; exact h3 hys

theorem dvd_lt_eq {e a b : Nat} (ha : e ∣ a) (hb : e ∣ b) (h1 : b ≤ a) (h2 : a < b + e) : a = b := by
  obtain ⟨x, rfl⟩ := ha
  obtain ⟨y, rfl⟩ := hb
  have he : 0 < e := Nat.pos_of_ne_zero (by rintro rfl; omega)
  have hxy : y ≤ x := Nat.le_of_mul_le_mul_left h1 he
  have : x < y + 1 := Nat.lt_of_mul_lt_mul_left (a := e) (by rw [Nat.mul_add, Nat.mul_one]; exact h2)
  rw [show x = y by omega]

theorem full_count (e N c : Nat) (he : e ≤ 272) (h : N * 272 < c * e + e) : N ≤ c := by
  rcases Nat.lt_or_ge c N with hlt | hge
  · exfalso
    have h1 : (c + 1) * e ≤ N * e := Nat.mul_le_mul_right e (by omega)
    have h2 : N * e ≤ N * 272 := Nat.mul_le_mul_left N he
    rw [Nat.succ_mul] at h1
    omega
  · exact hge

theorem evictPlace_equal (e np : Nat) (u0 : MEntry) (rest B : List MEntry) (x : MEntry) (hc : MChain u0.1 (u0 :: rest))
    (hsz : esz u0 = e) (hdvd : e ∣ u0.1) (hdn : e ∣ np) (hnp : np ≤ u0.1) :
    (np + e ≤ u0.1 ∧ evictPlace (np + e) (u0 :: rest) B x = (u0 :: rest, B ++ [x])) ∨
    (u0.1 = np ∧ evictPlace (np + e) (u0 :: rest) B x = if rest = [] then (B ++ [x], []) else (rest, B ++ [x])) := by
  unfold evictPlace
  by_cases hway : u0.1 < np + e
  · have hk : inWay (np + e) (u0 :: rest) = 1 := by
      rw [show inWay (np + e) (u0 :: rest) = 1 + inWay (np + e) rest from if_pos hway]
      cases rest with
      | nil => rfl
      | cons r rr => rw [show inWay (np + e) (r :: rr) = 0 from if_neg (by have := hc.2.1; omega)]
    refine Or.inr ⟨dvd_lt_eq hdvd hdn hnp hway, ?_⟩
    rw [hk]
    cases rest <;> simp
  · exact Or.inl ⟨by omega, by rw [show inWay (np + e) (u0 :: rest) = 0 from if_neg hway]; simp⟩

theorem MqInv.grid_iff {q : MsgQueue} {up low : List MEntry} (h : MqInv q up low) (hne : up ≠ []) (e : Nat) :
    Grid q e ↔ e ∣ headOff up ∧ (mLast (up ++ low) < headOff up → q.size < mLast up + 2 * e) := by
  obtain ⟨_, _, f, hf, hc, _, hl, hla, _, _⟩ := (MqInv.ne_iff hne).mp h
  simp [Grid, hf, hl, hla, headOff_chain hc hne]

/-- the grid facts and the count after the new entry `x` was put behind `low` and displaced what was in its way: at most
the oldest entry, and that one only when the ring is full (`htight`: nothing more fits behind the upper run) -/
theorem evictPlace_grid (e N : Nat) (he272 : e ≤ 272) (u0 : MEntry) (rest low : List MEntry) (x : MEntry)
    (hc : MChain u0.1 (u0 :: rest)) (hlc : MChain 0 low) (hx : x.1 = mEnd 0 low)
    (hsz : ∀ y ∈ (u0 :: rest) ++ low, esz y = e) (hdvd : e ∣ u0.1) (hle : mEnd 0 low ≤ u0.1)
    (hend : mEnd u0.1 (u0 :: rest) ≤ N * 272) (htight : N * 272 < mLast (u0 :: rest) + 2 * e)
    (r : List MEntry × List MEntry) (hr : evictPlace (mEnd 0 low + e) (u0 :: rest) low x = r) :
    e ∣ headOff r.1 ∧ (mLast (r.1 ++ r.2) < headOff r.1 → N * 272 < mLast r.1 + 2 * e) ∧
    min ((u0 :: rest).length + low.length + 1) N ≤ r.1.length + r.2.length := by
  obtain ⟨hlenU, hdvdU, hlastU⟩ := chain_equal e (u0 :: rest) u0.1 hc (fun y hy => hsz y (List.mem_append_left _ hy))
  have hlastU := hlastU (List.cons_ne_nil _ _)
  obtain ⟨hlenL, _, _⟩ := chain_equal e low 0 hlc (fun y hy => hsz y (List.mem_append_right _ hy))
  simp only [List.length_cons] at hlenU ⊢
  subst hr
  rcases evictPlace_equal e (mEnd 0 low) u0 rest low x hc (hsz u0 (by simp)) hdvd (by rw [hlenL, Nat.zero_add]; exact Nat.dvd_mul_left e _) hle
    with ⟨_, h⟩ | ⟨h0, h⟩ <;> rw [h]
  · exact ⟨hdvd, fun _ => htight, by simp; omega⟩
  · have hfull : N ≤ rest.length + 1 + low.length := full_count e N _ he272 (by rw [Nat.add_mul]; omega)
    by_cases hrest : rest = []
    · subst hrest
      rw [if_pos rfl, headOff_chain ((mChain_snoc ..).mpr ⟨hlc, hx⟩) (by simp)]
      exact ⟨Nat.dvd_zero e, fun h' => absurd h' (Nat.not_lt_zero _), by simp at hfull ⊢; omega⟩
    · obtain ⟨r, rr, rfl⟩ := List.exists_cons_of_ne_nil hrest
      rw [if_neg hrest]
      refine ⟨hdvdU hdvd r (by simp), fun _ => ?_, by simp at hfull ⊢; omega⟩
      rw [show mLast (r :: rr) = mLast (u0 :: r :: rr) from (mLast_append [u0] _ hrest).symm]
      exact htight

theorem placeIn_grid (e N : Nat) (new : QEntry) (he : HDR + new.data.length = e) (he272 : e ≤ 272) (f : Nat)
    (up low : List MEntry) (hup : up ≠ []) (hc : MChain f up) (hend : mEnd f up ≤ N * 272) (hlc : MChain 0 low)
    (hle : low ≠ [] → mEnd 0 low ≤ f) (hsz : ∀ x ∈ up ++ low, esz x = e) (hdvd : e ∣ f)
    (htight : low ≠ [] → N * 272 < mLast up + 2 * e) :
    e ∣ headOff (placeIn (N * 272) up low new).1 ∧
    (mLast ((placeIn (N * 272) up low new).1 ++ (placeIn (N * 272) up low new).2) < headOff (placeIn (N * 272) up low new).1 →
      N * 272 < mLast (placeIn (N * 272) up low new).1 + 2 * e) ∧
    min (up.length + low.length + 1) N ≤ (placeIn (N * 272) up low new).1.length + (placeIn (N * 272) up low new).2.length := by
  have hlastU := (chain_equal e up f hc (fun x hx => hsz x (List.mem_append_left _ hx))).2.2 hup
  have hmlU := mLast_bounds f up hc hup
  obtain ⟨u0, rest, rfl⟩ := List.exists_cons_of_ne_nil hup
  obtain rfl : u0.1 = f := hc.1
  have hf : ∀ r, headOff (u0 :: r) = u0.1 := fun _ => rfl
  simp only [placeIn, he, hf]
  by_cases hlow : low = []
  · subst hlow
    rw [if_pos rfl]
    by_cases hfit : mEnd u0.1 (u0 :: rest) + e ≤ N * 272
    · rw [if_pos hfit]
      refine ⟨hdvd, fun hlt => ?_, by simp; omega⟩
      rw [List.append_nil, List.cons_append, hf, ← List.cons_append, mLast_snoc] at hlt
      omega
    · rw [if_neg hfit]
      exact evictPlace_grid e N he272 u0 rest [] (0, new) hc trivial rfl hsz hdvd (Nat.zero_le _) hend (by omega) _ rfl
  · have hle := hle hlow
    have hfit : mEnd 0 low + e ≤ N * 272 := by omega
    rw [if_neg hlow, if_pos hfit]
    exact evictPlace_grid e N he272 u0 rest low (mEnd 0 low, new) hc hlc rfl hsz hdvd hle hend (htight hlow) _ rfl

theorem enqueue_grid (q : MsgQueue) (up low : List MEntry) (h : MqInv q up low) (N : Nat) (d : List Nat)
    (hd : d.length ≤ 250) (hsz : ∀ x ∈ up ++ low, esz x = HDR + d.length) (hN : q.size = N * 272)
    (hg : Grid q (HDR + d.length)) :
    Grid (q.enqueue d) (HDR + d.length) ∧ min (q.count + 1) N ≤ (q.enqueue d).count := by
  by_cases hup : up = []
  · -- an empty ring: the entry goes to the buffer start, whatever the ring's size
    obtain ⟨rfl, rfl⟩ : up = [] ∧ low = [] := ⟨hup, h.lowup hup⟩
    have hc := h.count_eq_zero.mpr ⟨rfl, rfl⟩
    obtain ⟨w1, w2, _, w4, _⟩ := writeEntry_fields { q with first := some 0, lib := some 0 } 0 d
    rw [mq_enqueue_empty q d hd hc]
    exact ⟨⟨by rw [w1]; exact Nat.dvd_zero _, fun hlt => by rw [w1, w2] at hlt; simp at hlt⟩, by rw [w4, hc]; show _ ≤ 0 + 1; omega⟩
  · obtain ⟨hcount, _, f, _, hc, hend, _, _, hlc, hle⟩ := (MqInv.ne_iff hup).mp h
    have hN1 : 266 ≤ q.size := by
      have := mLast_bounds f up hc hup
      have : N ≠ 0 := by rintro rfl; omega
      omega
    have hinv := enqueue_place q up low h d hd hN1
    have hgl := (h.grid_iff hup _).mp hg
    obtain ⟨g1, g2, g3⟩ := placeIn_grid (HDR + d.length) N (newEntry q d) rfl (by simp only [HDR]; omega) f up low hup hc (hN ▸ hend) hlc hle
      hsz (headOff_chain hc hup ▸ hgl.1)
      (fun hlow => hN ▸ hgl.2 (by
        have := mLast_bounds 0 low hlc hlow
        rw [mLast_append _ _ hlow, headOff_chain hc hup]; have := hle hlow; omega))
    rw [hN] at hinv
    have hne : (placeIn (N * 272) up low (newEntry q d)).1 ≠ [] := by
      intro h0; have := hinv.lowup h0; rw [h0, this] at g3; simp at g3; omega
    exact ⟨(hinv.grid_iff hne _).mpr ⟨g1, by rw [enqueue_size, hN]; exact g2⟩, by rw [hinv.count, hcount]; exact g3⟩

theorem enqueueAll_count (N L : Nat) (hN : 1 ≤ N) (hL : L ≤ 250) : ∀ (ds : List (List Nat)) (q : MsgQueue) (up low : List MEntry),
    MqInv q up low → (∀ x ∈ up ++ low, esz x = HDR + L) → q.size = N * 272 → Grid q (HDR + L) → (∀ d ∈ ds, d.length = L) →
    min (q.count + ds.length) N ≤ (enqueueAll q ds).count := by
  intro ds
  induction ds with
  | nil => intro q up low _ _ _ _ _; simp only [enqueueAll, List.foldl_nil, List.length_nil, Nat.add_zero]; exact Nat.min_le_left _ _
  | cons d ds ih =>
    intro q up low h hsz hsize hg hds
    have hdl : d.length = L := hds d (by simp)
    have hs266 : 266 ≤ q.size := by rw [hsize]; omega
    obtain ⟨up1, low1, k1, h1, a1⟩ := mq_enqueue_refines q up low h d (by omega) hs266
    obtain ⟨hg1, hc1⟩ := enqueue_grid q up low h N d (by omega) (by rw [hdl]; exact hsz) hsize (by rw [hdl]; exact hg)
    rw [hdl] at hg1
    have hsz1 : ∀ x ∈ up1 ++ low1, esz x = HDR + L := by
      intro x hx
      have hx2 : x.2 ∈ MqInv.abs up1 low1 := List.mem_map.mpr ⟨x, hx, rfl⟩
      rw [a1] at hx2
      rcases List.mem_append.mp hx2 with hx2 | hx2
      · obtain ⟨y, hy, hyx⟩ := List.mem_map.mp (List.mem_of_mem_drop hx2)
        have := hsz y hy
        unfold esz at this ⊢; rw [← hyx]; exact this
      · have : x.2 = newEntry q d := by simpa using hx2
        unfold esz; rw [this]; show HDR + d.length = HDR + L; rw [hdl]
    have := ih (q.enqueue d) up1 low1 h1 hsz1 (by rw [enqueue_size]; exact hsize) hg1 (fun x hx => hds x (by simp [hx]))
    show min (q.count + (d :: ds).length) N ≤ (enqueueAll (q.enqueue d) ds).count
    simp only [List.length_cons]
    omega

end Iec.Queues
