import Iec.Model.Queues
/-
Refinement of the event ring of cs104_slave.c (`Iec.Queues.MsgQueue`: byte offsets, 16-octet entry
headers, pointers first / last / lastInBuffer, association memory) to a list of entries, oldest first.

Layout invariant `MqInv q up low` as for the reply ring: `up` lies back to back from `first` up to `lib`,
`low` (present once the ring has wrapped) lies back to back from offset 0 and ends at or below `first`.
An entry of more than 250 octets is dropped without a trace (`mq_enqueue_big`); every other enqueue into a ring of
at least 266 octets displaces a prefix (the oldest entries) of the list and appends the new entry (`mq_enqueue_refines`).
-/
namespace Iec.Queues

abbrev MEntry := Nat × QEntry

def esz (x : MEntry) : Nat := HDR + x.2.data.length

/-- entries laid out back to back from offset `o` -/
def MChain : Nat → List MEntry → Prop
  | _, [] => True
  | o, x :: rest => x.1 = o ∧ MChain (o + esz x) rest

def mEnd : Nat → List MEntry → Nat
  | o, [] => o
  | o, x :: rest => mEnd (o + esz x) rest

def mLast (xs : List MEntry) : Nat := (xs.getLast?.map (·.1)).getD 0

/-- stated with the numeral because `omega` does not unfold `esz` -/
theorem esz_pos (x : MEntry) : 16 ≤ esz x := by simp [esz, HDR]

theorem mEnd_append (o : Nat) (xs ys : List MEntry) : mEnd o (xs ++ ys) = mEnd (mEnd o xs) ys := by
  induction xs generalizing o with
  | nil => rfl
  | cons x xs ih => simp [mEnd, ih]

theorem mChain_append (o : Nat) (xs ys : List MEntry) : MChain o (xs ++ ys) ↔ MChain o xs ∧ MChain (mEnd o xs) ys := by
  induction xs generalizing o with
  | nil => simp [MChain, mEnd]
  | cons x xs ih => simp [MChain, mEnd, ih, and_assoc]

theorem mChain_bounds (o : Nat) (xs : List MEntry) (h : MChain o xs) :
    o ≤ mEnd o xs ∧ ∀ x ∈ xs, o ≤ x.1 ∧ x.1 + esz x ≤ mEnd o xs := by
  induction xs generalizing o with
  | nil => simp [mEnd]
  | cons x xs ih =>
    obtain ⟨h1, h2⟩ := ih _ h.2
    refine ⟨by simp only [mEnd]; omega, fun y hy => ?_⟩
    rcases List.mem_cons.mp hy with rfl | hy
    · exact ⟨by rw [h.1]; omega, by rw [h.1]; exact h1⟩
    · exact ⟨by have := (h2 y hy).1; omega, (h2 y hy).2⟩

theorem mEnd_snoc (o : Nat) (xs : List MEntry) (x : MEntry) : mEnd o (xs ++ [x]) = mEnd o xs + esz x := by
  rw [mEnd_append]; rfl

theorem mChain_snoc (o : Nat) (xs : List MEntry) (x : MEntry) : MChain o (xs ++ [x]) ↔ MChain o xs ∧ x.1 = mEnd o xs := by
  simp [mChain_append, MChain]

theorem mLast_snoc (xs : List MEntry) (x : MEntry) : mLast (xs ++ [x]) = x.1 := by simp [mLast]

theorem snoc_of_ne {α} {l : List α} (h : l ≠ []) : ∃ L z, l = L ++ [z] :=
  ⟨_, _, (List.dropLast_concat_getLast h).symm⟩

theorem mLast_append (xs ys : List MEntry) (h : ys ≠ []) : mLast (xs ++ ys) = mLast ys := by
  obtain ⟨L, z, rfl⟩ := snoc_of_ne h
  rw [← List.append_assoc, mLast_snoc, mLast_snoc]

theorem mLast_bounds (o : Nat) (xs : List MEntry) (h : MChain o xs) (hne : xs ≠ []) :
    o ≤ mLast xs ∧ mLast xs + 16 ≤ mEnd o xs := by
  obtain ⟨L, z, rfl⟩ := snoc_of_ne hne
  rw [mChain_snoc] at h
  have := (mChain_bounds o L h.1).1
  have := esz_pos z
  rw [mLast_snoc, mEnd_snoc]; omega

structure MqInv (q : MsgQueue) (up low : List MEntry) : Prop where
  count : q.count = up.length + low.length
  data : ∀ x ∈ up ++ low, q.get x.1 = some x.2
  lowup : up = [] → low = []
  upper : ∀ u0 rest, up = u0 :: rest →
    q.first = some u0.1 ∧ MChain u0.1 up ∧ mEnd u0.1 up ≤ q.size ∧ q.lib = some (mLast up)
  lastU : up ≠ [] → low = [] → q.last = some (mLast up)
  lower : ∀ l0 rest, low = l0 :: rest →
    MChain 0 low ∧ q.last = some (mLast low) ∧ ∀ u0 r, up = u0 :: r → mEnd 0 low ≤ u0.1

/-- queued entries, oldest first -/
def MqInv.abs (up low : List MEntry) : List QEntry := (up ++ low).map Prod.snd

theorem MqInv.nil {q : MsgQueue} (hc : q.count = 0) : MqInv q [] [] :=
  { count := hc, data := by simp, lowup := fun _ => rfl, upper := nofun, lastU := by simp, lower := nofun }

theorem MqInv.count_eq_zero {q : MsgQueue} {up low : List MEntry} (h : MqInv q up low) :
    q.count = 0 ↔ up = [] ∧ low = [] := by
  rw [h.count]
  constructor
  · intro hc; exact ⟨List.eq_nil_of_length_eq_zero (by omega), List.eq_nil_of_length_eq_zero (by omega)⟩
  · rintro ⟨rfl, rfl⟩; rfl

/-- the ring after the pointers were adjusted for a new entry and before it is written: as `MqInv`, but nothing
is said about `last` (it is about to be overwritten) -/
structure MqPre (q : MsgQueue) (up low : List MEntry) : Prop where
  count : q.count = up.length + low.length
  data : ∀ x ∈ up ++ low, q.get x.1 = some x.2
  lowup : up = [] → low = []
  upper : ∀ u0 rest, up = u0 :: rest →
    q.first = some u0.1 ∧ MChain u0.1 up ∧ mEnd u0.1 up ≤ q.size ∧ q.lib = some (mLast up)
  lower : ∀ l0 rest, low = l0 :: rest → MChain 0 low ∧ ∀ u0 r, up = u0 :: r → mEnd 0 low ≤ u0.1

theorem MqInv.toPre {q : MsgQueue} {up low : List MEntry} (h : MqInv q up low) : MqPre q up low :=
  { count := h.count, data := h.data, lowup := h.lowup, upper := h.upper
    lower := fun l0 rest hl => ⟨(h.lower l0 rest hl).1, (h.lower l0 rest hl).2.2⟩ }

theorem MqInv.iff_pre {q : MsgQueue} {up low : List MEntry} :
    MqInv q up low ↔ MqPre q up low ∧ (up ≠ [] → q.last = some (mLast (up ++ low))) := by
  constructor
  · refine fun h => ⟨h.toPre, fun hne => ?_⟩
    cases low with
    | nil => rw [List.append_nil]; exact h.lastU hne rfl
    | cons l0 lr => rw [mLast_append _ _ (by simp)]; exact (h.lower l0 lr rfl).2.1
  · rintro ⟨hp, hl⟩
    exact { count := hp.count, data := hp.data, lowup := hp.lowup, upper := hp.upper
            lastU := fun hne hlow => by rw [hl hne, hlow, List.append_nil]
            lower := fun l0 r hlow => ⟨(hp.lower l0 r hlow).1,
              by rw [hl fun hu => (by rw [hp.lowup hu] at hlow; cases hlow), mLast_append _ _ (by simp [hlow])],
              (hp.lower l0 r hlow).2⟩ }

theorem MqPre.ne_iff {q : MsgQueue} {up low : List MEntry} (hne : up ≠ []) :
    MqPre q up low ↔ q.count = up.length + low.length ∧ (∀ x ∈ up ++ low, q.get x.1 = some x.2) ∧
      ∃ f, q.first = some f ∧ MChain f up ∧ mEnd f up ≤ q.size ∧ q.lib = some (mLast up) ∧
        MChain 0 low ∧ (low ≠ [] → mEnd 0 low ≤ f) := by
  obtain ⟨u0, rest, rfl⟩ := List.exists_cons_of_ne_nil hne
  constructor
  · intro h
    obtain ⟨hf, hc, he, hl⟩ := h.upper u0 rest rfl
    refine ⟨h.count, h.data, u0.1, hf, hc, he, hl, ?_⟩
    cases low with
    | nil => exact ⟨trivial, absurd rfl⟩
    | cons l0 lrest => exact ⟨(h.lower l0 lrest rfl).1, fun _ => (h.lower l0 lrest rfl).2 u0 rest rfl⟩
  · rintro ⟨hcount, hdata, f, hf, hc, he, hl, hlc, hle⟩
    obtain rfl : u0.1 = f := hc.1
    refine { count := hcount, data := hdata, lowup := fun h' => absurd h' hne, upper := ?_, lower := ?_ }
    · intro a b hab; cases hab; exact ⟨hf, hc, he, hl⟩
    · intro a b hab
      refine ⟨hab ▸ hlc, ?_⟩
      intro a' b' hab'; cases hab'; exact hle (by simp [hab])

theorem MqInv.ne_iff {q : MsgQueue} {up low : List MEntry} (hne : up ≠ []) :
    MqInv q up low ↔ q.count = up.length + low.length ∧ (∀ x ∈ up ++ low, q.get x.1 = some x.2) ∧
      ∃ f, q.first = some f ∧ MChain f up ∧ mEnd f up ≤ q.size ∧ q.lib = some (mLast up) ∧
        q.last = some (mLast (up ++ low)) ∧ MChain 0 low ∧ (low ≠ [] → mEnd 0 low ≤ f) := by
  rw [MqInv.iff_pre, MqPre.ne_iff hne]
  constructor
  · rintro ⟨⟨hc, hd, f, h1, h2, h3, h4, h5, h6⟩, hl⟩; exact ⟨hc, hd, f, h1, h2, h3, h4, hl hne, h5, h6⟩
  · rintro ⟨hc, hd, f, h1, h2, h3, h4, hl, h5, h6⟩; exact ⟨⟨hc, hd, f, h1, h2, h3, h4, h5, h6⟩, fun _ => hl⟩

theorem mChain_lt (o : Nat) (xs : List MEntry) (h : MChain o xs) : xs.Pairwise (fun a b => a.1 < b.1) := by
  induction xs generalizing o with
  | nil => exact .nil
  | cons x xs ih =>
    refine .cons (fun y hy => ?_) (ih _ h.2)
    have := ((mChain_bounds _ xs h.2).2 y hy).1
    have := esz_pos x
    have := h.1
    omega

theorem MqInv.distinct {q : MsgQueue} {up low : List MEntry} (h : MqInv q up low) :
    (up ++ low).Pairwise (fun a b => a.1 ≠ b.1) := by
  by_cases hne : up = []
  · rw [hne, h.lowup hne]; exact .nil
  · obtain ⟨_, _, f, _, hc, _, _, _, hlc, hle⟩ := (MqInv.ne_iff hne).mp h
    refine List.pairwise_append.mpr ⟨(mChain_lt _ _ hc).imp Nat.ne_of_lt, (mChain_lt _ _ hlc).imp Nat.ne_of_lt, ?_⟩
    intro a ha b hb
    have := ((mChain_bounds _ _ hlc).2 b hb).2
    have := ((mChain_bounds _ _ hc).2 a ha).1
    have := hle (List.ne_nil_of_mem hb)
    have := esz_pos b
    omega

theorem esize_of {q : MsgQueue} {o : Nat} {e : QEntry} (h : q.get o = some e) : q.esize o = e.data.length := by
  simp [MsgQueue.esize, h]

theorem next_of_get {q : MsgQueue} {x : MEntry} (hg : q.get x.1 = some x.2) (hl : ¬ some x.1 = q.lib) :
    q.next x.1 = x.1 + esz x := by
  simp [MsgQueue.next, hl, esize_of hg, esz, Nat.add_assoc]

theorem get_put (q : MsgQueue) (np : Nat) (e : QEntry) :
    (q.put np e).get np = some e ∧
    ∀ o, (o < np ∨ np + HDR + e.data.length ≤ o) → (q.put np e).get o = q.get o := by
  refine ⟨by simp [MsgQueue.get, MsgQueue.put], fun o ho => ?_⟩
  have hne : (np == o) = false := by simp only [HDR] at ho; simp; omega
  simp only [MsgQueue.get, MsgQueue.put, List.find?_cons, hne, List.find?_filter]
  congr 2; funext b
  by_cases hb : b.1 = o
  · simp only [HDR] at ho ⊢; simp [hb]; omega
  · simp [hb]

theorem get_setState (q : MsgQueue) (o st o' : Nat) :
    (q.setState o st).get o' = (q.get o').map (fun e => if o' = o then { e with st := st } else e) := by
  have hkey : ((fun b : Nat × QEntry => b.1 == o') ∘ fun b => if b.1 == o then (b.1, { b.2 with st := st }) else b) =
      (·.1 == o') := by
    funext b; simp only [Function.comp]; split <;> rfl
  simp only [MsgQueue.get, MsgQueue.setState, List.find?_map, hkey, Option.map_map]
  cases hfind : q.mem.find? (·.1 == o') with
  | none => rfl
  | some b =>
    have hb : b.1 = o' := by simpa using List.find?_some hfind
    subst hb
    simp only [Option.map_some, Function.comp, beq_iff_eq]
    split <;> rfl

/-- following `next` from offset `o` visits exactly the entries `xs` and stops at the newest one -/
inductive Path (q : MsgQueue) : Nat → List MEntry → Prop
  | last {o x} : x.1 = o → q.get o = some x.2 → q.last = some o → Path q o [x]
  | step {o x r} : x.1 = o → q.get o = some x.2 → ¬ some o = q.last → Path q (q.next o) r → Path q o (x :: r)

/-- a chain that neither `last` nor `lib` points into is walked entry by entry -/
theorem path_chain {q : MsgQueue} {ys : List MEntry} {la li : Nat} (hla : q.last = some la) (hli : q.lib = some li) :
    ∀ (xs : List MEntry) (o : Nat), MChain o xs → (∀ x ∈ xs, q.get x.1 = some x.2) →
    (la < o ∨ mEnd o xs ≤ la) → (li < o ∨ mEnd o xs ≤ li) → Path q (mEnd o xs) ys → Path q o (xs ++ ys)
  | [], _, _, _, _, _, hp => hp
  | x :: r, o, hc, hg, hA, hI, hp => by
    obtain ⟨rfl, hr⟩ := hc
    have hb := (mChain_bounds _ _ hr).1
    have hx := esz_pos x
    have hgx := hg x (by simp)
    simp only [mEnd] at hA hI
    refine .step rfl hgx (by rw [hla]; intro h; cases h; omega) ?_
    rw [next_of_get hgx (by rw [hli]; intro h; cases h; omega)]
    exact path_chain hla hli r _ hr (fun y hy => hg y (by simp [hy])) (by omega) (by omega) hp

theorem MqInv.path {q : MsgQueue} {up low : List MEntry} (h : MqInv q up low) (hne : up ≠ []) :
    ∃ f, q.first = some f ∧ Path q f (up ++ low) := by
  obtain ⟨_, hdata, f, hf, hc, _, hl, hla, hlc, hle⟩ := (MqInv.ne_iff hne).mp h
  refine ⟨f, hf, ?_⟩
  obtain ⟨L, z, rfl⟩ := snoc_of_ne hne
  rw [mChain_snoc] at hc; rw [mLast_snoc] at hl
  have hgz := hdata z (by simp)
  have hLz : mEnd f L ≤ z.1 := Nat.le_of_eq hc.2.symm
  by_cases hlow : low = []
  · subst hlow
    rw [List.append_nil, mLast_snoc] at hla
    rw [List.append_nil]
    exact path_chain hla hl L f hc.1 (fun x hx => hdata x (by simp [hx])) (.inr hLz) (.inr hLz)
      (.last hc.2 (hc.2 ▸ hgz) (hc.2 ▸ hla))
  · obtain ⟨LL, zz, rfl⟩ := snoc_of_ne hlow
    have hle := hle hlow
    rw [mChain_snoc] at hlc; rw [mEnd_snoc] at hle
    rw [← List.append_assoc, mLast_snoc] at hla
    have hzz := esz_pos zz
    have hfz := (mChain_bounds _ _ hc.1).1
    have hgzz := hdata zz (by simp)
    rw [List.append_assoc]
    -- up to `lib`, the step from `lib` to offset 0, then up to `last`
    refine path_chain hla hl L f hc.1 (fun x hx => hdata x (by simp [hx])) (.inl (by omega)) (.inr hLz) ?_
    refine .step hc.2 (hc.2 ▸ hgz) (by rw [hla, ← hc.2]; simp; omega) ?_
    rw [← hc.2, show q.next z.1 = 0 by simp [MsgQueue.next, hl]]
    exact path_chain hla hl LL 0 hlc.1 (fun x hx => hdata x (by simp [hx])) (.inr (Nat.le_of_eq hlc.2.symm))
      (.inr (by omega)) (.last hlc.2 (hlc.2 ▸ hgzz) (hlc.2 ▸ hla))

theorem Path.ne_nil {q : MsgQueue} {o : Nat} {xs : List MEntry} (h : Path q o xs) : xs ≠ [] := by
  cases h <;> simp

theorem walk_path {q : MsgQueue} : ∀ (n : Nat) {o : Nat} {xs : List MEntry}, Path q o xs → xs.length ≤ n →
    walk q n o = xs.map Prod.snd
  | 0, _, _, h, hn => absurd (List.eq_nil_of_length_eq_zero (by omega)) h.ne_nil
  | n + 1, _, _, .last rfl hg hl, _ => by simp [walk, hg, hl]
  | n + 1, _, _, .step rfl hg hl hp, hn => by
    simp [walk, hg, hl, walk_path n hp (by simpa using hn)]

/-- the fuel `count` of `toList` suffices (`MqInv.path`: the walk arrives at `last` with the `count`-th entry) -/
theorem toList_eq (q : MsgQueue) (up low : List MEntry) (h : MqInv q up low) : q.toList = MqInv.abs up low := by
  unfold MsgQueue.toList MqInv.abs
  by_cases hc : q.count = 0
  · obtain ⟨rfl, rfl⟩ := h.count_eq_zero.mp hc
    simp [hc]
  · obtain ⟨f, hf, hp⟩ := h.path (fun hu => hc (h.count_eq_zero.mpr ⟨hu, h.lowup hu⟩))
    simp only [hc, if_false, hf, Option.getD_some]
    exact walk_path _ hp (by rw [h.count]; simp)

theorem findFrom_path {q : MsgQueue} (p : QEntry → Bool) : ∀ (n : Nat) {o : Nat} {xs : List MEntry}, Path q o xs →
    xs.length ≤ n → findFrom q p n o = (xs.find? (fun x => p x.2)).map (·.1)
  | 0, _, _, h, hn => absurd (List.eq_nil_of_length_eq_zero (by omega)) h.ne_nil
  | n + 1, _, x :: _, .last rfl hg hl, _ => by
    cases hp : p x.2 <;> simp [findFrom, hg, hl, hp]
  | n + 1, _, x :: _, .step rfl hg hl hp, hn => by
    cases hpx : p x.2 <;> simp [findFrom, hg, hl, hpx, findFrom_path p n hp (by simpa using hn)]

/-- the search loops of isAsduAvailable, getNextWaitingASDU and hasUnconfirmedIMessages: the fuel `count + 1` suffices -/
theorem findFrom_eq (q : MsgQueue) (up low : List MEntry) (h : MqInv q up low) (p : QEntry → Bool) (hc : q.count ≠ 0) :
    findFrom q p (q.count + 1) (q.first.getD 0) = ((up ++ low).find? (fun x => p x.2)).map (·.1) := by
  obtain ⟨f, hf, hp⟩ := h.path (fun hu => hc (h.count_eq_zero.mpr ⟨hu, h.lowup hu⟩))
  rw [hf]
  exact findFrom_path p _ hp (by rw [h.count]; simp)

def updSt (o st : Nat) (x : MEntry) : MEntry := if x.1 = o then (x.1, { x.2 with st := st }) else x

theorem updSt_fst (o st : Nat) (x : MEntry) : (updSt o st x).1 = x.1 := by unfold updSt; split <;> rfl
theorem updSt_esz (o st : Nat) (x : MEntry) : esz (updSt o st x) = esz x := by unfold updSt esz; split <;> rfl

def SameShape (q q' : MsgQueue) : Prop :=
  q'.size = q.size ∧ q'.count = q.count ∧ q'.first = q.first ∧ q'.last = q.last ∧ q'.lib = q.lib ∧ q'.nextId = q.nextId

theorem SameShape.refl (q : MsgQueue) : SameShape q q := ⟨rfl, rfl, rfl, rfl, rfl, rfl⟩
theorem SameShape.setState (q : MsgQueue) (o st : Nat) : SameShape q (q.setState o st) := ⟨rfl, rfl, rfl, rfl, rfl, rfl⟩
theorem SameShape.trans {a b c : MsgQueue} (h1 : SameShape a b) (h2 : SameShape b c) : SameShape a c := by
  obtain ⟨a1, a2, a3, a4, a5, a6⟩ := h1
  obtain ⟨b1, b2, b3, b4, b5, b6⟩ := h2
  exact ⟨b1.trans a1, b2.trans a2, b3.trans a3, b4.trans a4, b5.trans a5, b6.trans a6⟩

section relabel
variable (r : MEntry → MEntry) (hr1 : ∀ x, (r x).1 = x.1) (hr2 : ∀ x, esz (r x) = esz x)
include hr1 hr2

theorem mChain_map : ∀ (xs : List MEntry) (o : Nat), MChain o (xs.map r) ↔ MChain o xs
  | [], _ => Iff.rfl
  | x :: xs, o => by simp only [List.map_cons, MChain, hr1, hr2, mChain_map xs]

omit hr1 in
theorem mEnd_map : ∀ (xs : List MEntry) (o : Nat), mEnd o (xs.map r) = mEnd o xs
  | [], _ => rfl
  | x :: xs, o => by simp only [List.map_cons, mEnd, hr2, mEnd_map xs]

omit hr2 in
theorem mLast_map (xs : List MEntry) : mLast (xs.map r) = mLast xs := by
  unfold mLast; rw [List.getLast?_map]; cases xs.getLast? <;> simp [hr1]

theorem inv_of_get (q q' : MsgQueue) (up low : List MEntry) (h : MqInv q up low) (hs : SameShape q q')
    (hg : ∀ x ∈ up ++ low, q'.get x.1 = some (r x).2) : MqInv q' (up.map r) (low.map r) := by
  obtain ⟨s1, s2, s3, s4, s5, _⟩ := hs
  by_cases hne : up = []
  · obtain ⟨rfl, rfl⟩ : up = [] ∧ low = [] := ⟨hne, h.lowup hne⟩
    exact .nil (by rw [s2]; exact h.count)
  · obtain ⟨hc, _, f, hf, hch, he, hl, hla, hlc, hle⟩ := (MqInv.ne_iff hne).mp h
    refine (MqInv.ne_iff (by simpa using hne)).mpr ⟨by simpa [s2] using hc, ?_, f, ?_⟩
    · intro x hx
      obtain ⟨y, hy, rfl⟩ := List.mem_map.mp (List.map_append ▸ hx)
      rw [hr1]; exact hg y hy
    · rw [← List.map_append, mLast_map r hr1, mLast_map r hr1, mChain_map r hr1 hr2, mChain_map r hr1 hr2,
        mEnd_map r hr2, mEnd_map r hr2, s1, s3, s4, s5]
      exact ⟨hf, hch, he, hl, hla, hlc, by simpa using hle⟩

end relabel

theorem setState_inv (q : MsgQueue) (up low : List MEntry) (h : MqInv q up low) (o st : Nat) :
    MqInv (q.setState o st) (up.map (updSt o st)) (low.map (updSt o st)) := by
  refine inv_of_get _ (updSt_fst o st) (updSt_esz o st) q _ up low h (.setState q o st) fun x hx => ?_
  rw [get_setState, h.data x hx]
  unfold updSt; split <;> rfl

theorem getNextWaiting_refines (q : MsgQueue) (up low : List MEntry) (h : MqInv q up low) :
    match (up ++ low).find? (fun x => x.2.st == 1) with
    | none => q.getNextWaiting = (q, none)
    | some x => q.getNextWaiting = (q.setState x.1 2, some (x.2.id, x.1, x.2.data)) ∧
        MqInv (q.setState x.1 2) (up.map (updSt x.1 2)) (low.map (updSt x.1 2)) := by
  unfold MsgQueue.getNextWaiting MsgQueue.firstWaiting
  by_cases hc : q.count = 0
  · obtain ⟨rfl, rfl⟩ := h.count_eq_zero.mp hc
    simp [hc]
  · simp only [hc, if_false, findFrom_eq q up low h _ hc]
    cases hfind : (up ++ low).find? (fun x => x.2.st == 1) with
    | none => rfl
    | some x =>
      simp only [Option.map_some, h.data x (List.mem_of_find?_eq_some hfind)]
      exact ⟨trivial, setState_inv q up low h x.1 2⟩

theorem getNextWaiting_cases (q : MsgQueue) : q.getNextWaiting = (q, none) ∨
    ∃ o e, q.firstWaiting = some o ∧ q.get o = some e ∧ q.getNextWaiting = (q.setState o 2, some (e.id, o, e.data)) := by
  unfold MsgQueue.getNextWaiting
  cases q.firstWaiting with
  | none => exact .inl rfl
  | some o =>
    cases hg : q.get o with
    | none => exact .inl (by simp only [hg])
    | some e => exact .inr ⟨o, e, rfl, hg, by simp only [hg]⟩

theorem setEntryWaiting_cases (q : MsgQueue) (o id : Nat) : q.setEntryWaiting o id = q ∨
    ∃ e, q.get o = some e ∧ e.st = 2 ∧ q.setEntryWaiting o id = q.setState o 1 := by
  unfold MsgQueue.setEntryWaiting
  by_cases hc : q.count > 0
  · rw [if_pos hc]
    by_cases hw : (decide (id + 1 ≤ q.nextId) && decide (q.nextId - 1 - id < q.count)) = true
    · rw [if_pos hw]
      cases hg : q.get o with
      | none => exact .inl rfl
      | some e =>
        by_cases he : (e.id == id && e.st == 2) = true
        · exact .inr ⟨e, rfl, by simp at he; exact he.2, if_pos he⟩
        · exact .inl (if_neg he)
    · exact .inl (if_neg hw)
  · exact .inl (if_neg hc)

theorem markConfirmed_cases (q : MsgQueue) (o id : Nat) : q.markConfirmed o id = q ∨
    ∃ e, 0 < q.count ∧ q.get o = some e ∧ e.id = id ∧
      q.markConfirmed o id = if some o = q.first then (q.setState o 0).removeFirst else q.setState o 0 := by
  unfold MsgQueue.markConfirmed
  by_cases hc : q.count > 0
  · rw [if_pos hc]
    by_cases hw : (decide (id + 1 ≤ q.nextId) && decide (q.nextId - 1 - id < q.count)) = true
    · rw [if_pos hw]
      cases hg : q.get o with
      | none => exact .inl rfl
      | some e =>
        by_cases hid : e.id = id
        · exact .inr ⟨e, hc, rfl, hid, by simp [hid]⟩
        · exact .inl (by simp [hid])
    · exact .inl (if_neg hw)
  · exact .inl (if_neg hc)

theorem removeFirst_size (q : MsgQueue) : q.removeFirst.size = q.size := by
  simp only [MsgQueue.removeFirst]
  split
  · split <;> rfl
  · rfl

theorem removeFirst_refines (q : MsgQueue) (u0 : MEntry) (rest low : List MEntry) (h : MqInv q (u0 :: rest) low) :
    (rest ≠ [] → MqInv q.removeFirst rest low) ∧ (rest = [] → MqInv q.removeFirst low []) := by
  obtain ⟨hcount, hdata, f, hf, ⟨rfl, hc⟩, he, hl, hla, hlc, hle⟩ := (MqInv.ne_iff (by simp)).mp h
  have hcount' : q.count - 1 = rest.length + low.length := by rw [hcount, List.length_cons]; omega
  have hg0 := hdata u0 (by simp)
  have h0 := esz_pos u0
  have hdata' : ∀ x ∈ rest ++ low, q.get x.1 = some x.2 := fun x hx => hdata x (List.mem_cons_of_mem _ hx)
  constructor
  · intro hr
    have hml := mLast_bounds _ rest hc hr
    rw [show u0 :: rest = [u0] ++ rest from rfl, mLast_append _ _ hr] at hl
    rw [show (u0 :: rest) ++ low = [u0] ++ (rest ++ low) from rfl, mLast_append _ _ (by simp [hr])] at hla
    have heq : q.removeFirst = { q with first := some (u0.1 + esz u0), count := q.count - 1 } := by
      have : ¬ u0.1 = mLast rest := by omega
      simp [MsgQueue.removeFirst, hf, hl, esize_of hg0, esz, Nat.add_assoc, this]
    rw [heq]
    exact (MqInv.ne_iff hr).mpr ⟨hcount', hdata', _, rfl, hc, he, hl, hla, hlc, fun hlow => Nat.le_trans (hle hlow) (by omega)⟩
  · rintro rfl
    have hlib : q.lib = some u0.1 := hl
    by_cases hlow : low = []
    · subst hlow
      have heq : q.removeFirst = { q with first := none, last := none, lib := none, count := q.count - 1 } := by
        simp [MsgQueue.removeFirst, hf, hlib, show q.last = some u0.1 from hla]
      rw [heq]
      exact .nil hcount'
    · have hle := hle hlow
      have hml := mLast_bounds 0 low hlc hlow
      rw [mLast_append _ _ hlow] at hla
      have heq : q.removeFirst = { q with first := some 0, lib := q.last, count := q.count - 1 } := by
        have : ¬ u0.1 = mLast low := by omega
        simp [MsgQueue.removeFirst, hf, hlib, hla, this]
      rw [heq]
      simp only [mEnd] at he
      exact (MqInv.ne_iff hlow).mpr ⟨by simpa using hcount', fun x hx => hdata' x (by simpa using hx), 0, rfl, hlc,
        by show _ ≤ q.size; omega, hla, by rw [List.append_nil]; exact hla, trivial, absurd rfl⟩

theorem markConfirmed_refines (q : MsgQueue) (up low : List MEntry) (h : MqInv q up low) (x : MEntry)
    (hx : x ∈ up ++ low) (hwin : x.2.id + 1 ≤ q.nextId ∧ q.nextId - 1 - x.2.id < q.count) :
    ∃ up' low', MqInv (q.markConfirmed x.1 x.2.id) up' low' ∧
      MqInv.abs up' low' =
        (if (up ++ low).head? = some x then (MqInv.abs (up.map (updSt x.1 0)) (low.map (updSt x.1 0))).tail
         else MqInv.abs (up.map (updSt x.1 0)) (low.map (updSt x.1 0))) := by
  have hcnt : q.count > 0 := by omega
  have hs := setState_inv q up low h x.1 0
  cases up with
  | nil => rw [h.lowup rfl] at hx; cases hx
  | cons u0 rest =>
    have hfirst := (h.upper u0 rest rfl).1
    have heq : q.markConfirmed x.1 x.2.id = if x.1 = u0.1 then (q.setState x.1 0).removeFirst else q.setState x.1 0 := by
      simp [MsgQueue.markConfirmed, hcnt, hwin.1, hwin.2, h.data x hx, hfirst]
    by_cases hhead : x = u0
    · subst hhead
      obtain ⟨hne, hnil⟩ := removeFirst_refines _ _ _ _ hs
      rw [heq, if_pos rfl, if_pos (by simp)]
      by_cases hr : rest = []
      · subst hr; exact ⟨_, _, hnil rfl, by simp [MqInv.abs]⟩
      · exact ⟨_, _, hne (by simpa using hr), by simp [MqInv.abs]⟩
    · have hoff : ¬ x.1 = u0.1 := fun he =>
        (List.pairwise_cons.mp h.distinct).1 x ((List.mem_cons.mp hx).resolve_left hhead) he.symm
      rw [heq, if_neg hoff, if_neg (by simpa using fun h' => hhead h'.symm)]
      exact ⟨_, _, hs, rfl⟩

def rearmE (e : QEntry) : QEntry := if e.st = 2 then { e with st := 1 } else e
def rearm (x : MEntry) : MEntry := (x.1, rearmE x.2)

theorem rearm_esz (x : MEntry) : esz (rearm x) = esz x := by unfold rearm rearmE esz; split <;> rfl

theorem next_setState (q : MsgQueue) (o st o' : Nat) : (q.setState o st).next o' = q.next o' := by
  have he : (q.setState o st).esize o' = q.esize o' := by
    simp only [MsgQueue.esize, get_setState]
    cases q.get o' with
    | none => rfl
    | some e => simp only [Option.map]; split <;> rfl
  simp only [MsgQueue.next, he]; rfl

theorem Path.setState {q : MsgQueue} {o : Nat} {xs : List MEntry} (o' st : Nat) (h : Path q o xs) :
    Path (q.setState o' st) o (xs.map (updSt o' st)) := by
  have hg : ∀ {o : Nat} {x : MEntry}, x.1 = o → q.get o = some x.2 → (q.setState o' st).get o = some (updSt o' st x).2 := by
    rintro _ x rfl hg; rw [get_setState, hg]; unfold updSt; split <;> rfl
  induction h with
  | last hx hgx hl => exact .last ((updSt_fst ..).trans hx) (hg hx hgx) hl
  | step hx hgx hl _ ih => exact .step ((updSt_fst ..).trans hx) (hg hx hgx) hl (by rw [next_setState]; exact ih)

theorem rearmE_idem (e : QEntry) : rearmE (rearmE e) = rearmE e := by
  unfold rearmE; split <;> simp_all

theorem rearmE_twice (a b : Prop) [Decidable a] [Decidable b] (e : QEntry) :
    (if b then rearmE (if a then rearmE e else e) else if a then rearmE e else e) = if a ∨ b then rearmE e else e := by
  by_cases ha : a <;> by_cases hb : b <;> simp [ha, hb, rearmE_idem]

theorem rearm_one {q : MsgQueue} {x : MEntry} (hg : q.get x.1 = some x.2) (q1 : MsgQueue)
    (hq1 : q1 = if x.2.st == 2 then q.setState x.1 1 else q) :
    SameShape q q1 ∧ (∀ o', q1.get o' = (q.get o').map fun e => if o' = x.1 then rearmE e else e) ∧
    ∀ {o r}, Path q o r → ∃ r', r'.map (·.1) = r.map (·.1) ∧ Path q1 o r' := by
  subst hq1
  by_cases hst : x.2.st = 2
  · rw [if_pos (by simpa using hst)]
    refine ⟨.setState q x.1 1, fun o' => ?_, fun hp => ⟨_, by simp [updSt_fst], hp.setState x.1 1⟩⟩
    rw [get_setState]
    cases hg' : q.get o' <;> simp only [Option.map]
    by_cases ho : o' = x.1
    · subst ho; rw [hg] at hg'; cases hg'; simp [rearmE, hst]
    · simp [ho]
  · rw [if_neg (by simpa using hst)]
    refine ⟨.refl q, fun o' => ?_, fun hp => ⟨_, rfl, hp⟩⟩
    cases hg' : q.get o' <;> simp only [Option.map]
    by_cases ho : o' = x.1
    · subst ho; rw [hg] at hg'; cases hg'; simp [rearmE, hst]
    · simp [ho]

theorem resetLoop_path : ∀ (n : Nat) {q : MsgQueue} {o : Nat} {xs : List MEntry}, Path q o xs → xs.length ≤ n →
    SameShape q (resetLoop q n o) ∧
    ∀ o', (resetLoop q n o).get o' = (q.get o').map fun e => if o' ∈ xs.map (·.1) then rearmE e else e
  | 0, _, _, _, h, hn => absurd (List.eq_nil_of_length_eq_zero (by omega)) h.ne_nil
  | n + 1, q, _, x :: _, .last rfl hg hl, _ => by
    obtain ⟨hs, hget, _⟩ := rearm_one hg _ rfl
    simp only [resetLoop, hg, hl, beq_self_eq_true, if_true, List.map_cons, List.map_nil, List.mem_singleton]
    exact ⟨hs, hget⟩
  | n + 1, q, _, x :: r, .step rfl hg hl hp, hn => by
    obtain ⟨hs, hget, hpath⟩ := rearm_one hg _ rfl
    obtain ⟨r', hr', hp'⟩ := hpath hp
    obtain ⟨hs', hget'⟩ := resetLoop_path n hp' (by have := congrArg List.length hr'; simp at this hn; omega)
    have hl' : (some x.1 == q.last) = false := by simpa using hl
    simp only [resetLoop, hg, hl', Bool.false_eq_true, if_false]
    refine ⟨hs.trans hs', fun o' => ?_⟩
    rw [hget', hget, hr', Option.map_map]
    cases q.get o' <;> simp only [Option.map, Function.comp, List.map_cons, List.mem_cons]
    exact congrArg some (rearmE_twice ..)

theorem setWaiting_refines (q : MsgQueue) (up low : List MEntry) (h : MqInv q up low) :
    MqInv q.setWaitingWhenNotConfirmed (up.map rearm) (low.map rearm) := by
  unfold MsgQueue.setWaitingWhenNotConfirmed
  by_cases hc : q.count = 0
  · obtain ⟨rfl, rfl⟩ := h.count_eq_zero.mp hc
    simpa [hc] using h
  · obtain ⟨f, hf, hp⟩ := h.path (fun hu => hc (h.count_eq_zero.mpr ⟨hu, h.lowup hu⟩))
    obtain ⟨hs, hget⟩ := resetLoop_path (q.count + 1) hp (by rw [h.count]; simp)
    simp only [hc, if_false, hf, Option.getD_some]
    refine inv_of_get rearm (fun _ => rfl) rearm_esz q _ up low h hs fun x hx => ?_
    rw [hget, h.data x hx, Option.map_some, if_pos (List.mem_map_of_mem hx)]; rfl

/-- number of leading entries whose offset lies below `bound` (they are in the way of a new entry ending there) -/
def inWay (bound : Nat) : List MEntry → Nat
  | [] => 0
  | x :: xs => if x.1 < bound then 1 + inWay bound xs else 0

theorem inWay_le (bound : Nat) (xs : List MEntry) : inWay bound xs ≤ xs.length := by
  induction xs with
  | nil => simp [inWay]
  | cons x xs ih => simp only [inWay]; split <;> simp <;> omega

theorem inWay_rest (bound o : Nat) (xs : List MEntry) (h : MChain o xs) :
    ∀ x ∈ xs.drop (inWay bound xs), bound ≤ x.1 := by
  induction xs generalizing o with
  | nil => simp
  | cons y ys ih =>
    simp only [inWay]
    split
    · rw [Nat.add_comm]; exact ih _ h.2
    · intro x hx
      have := ((mChain_bounds _ _ h).2 x hx).1
      have := h.1
      omega

theorem evictLoop_succ (q : MsgQueue) (np es fuel : Nat) :
    evictLoop q np es (fuel + 1) =
      if np + es > q.first.getD 0 ∧ q.count > 0 then
        (if q.first = q.lib then { q with count := q.count - 1, first := some 0, lib := some np }
         else evictLoop { q with count := q.count - 1, first := some (q.first.getD 0 + HDR + q.esize (q.first.getD 0)) } np es fuel)
      else q := by
  simp only [evictLoop, Bool.and_eq_true, decide_eq_true_eq, beq_iff_eq]

theorem evict_spec (np es : Nat) : ∀ (U : List MEntry) (q : MsgQueue) (u0 : MEntry) (rest : List MEntry), U = u0 :: rest →
    q.first = some u0.1 → MChain u0.1 U → (∀ x ∈ U, q.get x.1 = some x.2) → q.lib = some (mLast U) → U.length ≤ q.count →
    ∀ fuel, U.length ≤ fuel →
    evictLoop q np es fuel =
      (if inWay (np + es) U = U.length then { q with count := q.count - U.length, first := some 0, lib := some np }
       else { q with count := q.count - inWay (np + es) U, first := some ((U.drop (inWay (np + es) U)).headD u0).1 }) := by
  intro U q u rest hU
  subst hU
  induction rest generalizing q u with
  | nil =>
    intro hfirst _ _ hlib hcount fuel hfuel
    obtain ⟨fuel, rfl⟩ := Nat.exists_eq_add_one_of_ne_zero (Nat.ne_zero_of_lt hfuel)
    rw [evictLoop_succ, hfirst]
    by_cases hway : u.1 < np + es
    · rw [if_pos ⟨hway, hcount⟩, if_pos (show some u.1 = q.lib from hlib.symm),
        show inWay (np + es) [u] = 1 from if_pos hway, if_pos (show 1 = [u].length from rfl)]
      rfl
    · rw [if_neg (fun h => hway h.1), show inWay (np + es) [u] = 0 from if_neg hway, if_neg (by simp)]
      show q = { q with first := some u.1 }
      rw [← hfirst]
  | cons r rr ih =>
    intro hfirst hchain hget hlib hcount fuel hfuel
    obtain ⟨fuel, rfl⟩ := Nat.exists_eq_add_one_of_ne_zero (Nat.ne_zero_of_lt hfuel)
    rw [evictLoop_succ, hfirst]
    simp only [List.length_cons] at hcount hfuel
    by_cases hway : u.1 < np + es
    · have hb := mLast_bounds _ _ hchain.2 (List.cons_ne_nil r rr)
      have := esz_pos u
      rw [show u :: r :: rr = [u] ++ (r :: rr) from rfl, mLast_append _ _ (List.cons_ne_nil r rr)] at hlib
      have hr1 : r.1 = u.1 + esz u := hchain.2.1
      have hstep := ih { q with count := q.count - 1, first := some (u.1 + HDR + u.2.data.length) } r
        (by show some _ = some r.1; rw [hr1]; simp [esz, Nat.add_assoc]) (hr1 ▸ hchain.2)
        (fun x hx => hget x (List.mem_cons_of_mem _ hx)) hlib (Nat.le_sub_of_add_le hcount) fuel (Nat.le_of_succ_le_succ hfuel)
      rw [if_pos ⟨hway, by omega⟩, if_neg (by rw [hlib]; simp; omega), Option.getD_some, esize_of (hget u (by simp)), hstep]
      have hle := inWay_le (np + es) (r :: rr)
      rw [show inWay (np + es) (u :: r :: rr) = 1 + inWay (np + es) (r :: rr) from if_pos hway]
      generalize inWay (np + es) (r :: rr) = k at hle ⊢
      simp only [List.length_cons] at hle ⊢
      by_cases hall : k = rr.length + 1
      · rw [if_pos hall, if_pos (by omega)]
        rw [Nat.sub_sub, Nat.add_comm 1 (rr.length + 1)]
      · rw [if_neg hall, if_neg (by omega), Nat.add_comm 1, List.drop_succ_cons, Nat.sub_sub, Nat.add_comm]
        obtain ⟨y, ys, hys⟩ := List.exists_cons_of_ne_nil (l := (r :: rr).drop k)
          (fun hn => hall (Nat.le_antisymm hle (List.drop_eq_nil_iff.mp hn)))
        rw [hys]; rfl
    · rw [if_neg (fun h => hway h.1), show inWay (np + es) (u :: r :: rr) = 0 from if_neg hway, if_neg (by simp)]
      show q = { q with first := some u.1 }
      rw [← hfirst]

theorem countUntilEnd_spec (q : MsgQueue) : ∀ (U : List MEntry) (o : Nat) (z : MEntry), MChain o (U ++ [z]) →
    (∀ x ∈ U ++ [z], q.get x.1 = some x.2) → q.lib = some z.1 → ∀ k, countUntilEnd q (U.length + 1 + k) o = U.length + 1 := by
  intro U
  induction U with
  | nil =>
    rintro _ z ⟨rfl, _⟩ _ hlib k
    simp [Nat.add_comm 1 k, countUntilEnd, hlib]
  | cons x xs ih =>
    rintro _ z ⟨rfl, hrest⟩ hg hlib k
    have := ((mChain_bounds _ _ hrest).2 z (by simp)).1
    have := esz_pos x
    have hnlib : ¬ (some x.1 = q.lib) := by rw [hlib]; simp; omega
    have := ih (x.1 + esz x) z hrest (fun y hy => hg y (List.mem_cons_of_mem _ hy)) hlib k
    simp only [esz, ← Nat.add_assoc] at this
    rw [show (x :: xs).length + 1 + k = (xs.length + 1 + k) + 1 by simp; omega]
    simp only [countUntilEnd, beq_iff_eq, hnlib, if_false, esize_of (hg x (by simp)), this, List.length_cons]
    omega

def newEntry (q : MsgQueue) (d : List Nat) : QEntry := ⟨q.nextId, 1, d⟩

theorem writeEntry_fields (q : MsgQueue) (np : Nat) (d : List Nat) :
    (writeEntry q np d).first = q.first ∧ (writeEntry q np d).last = some np ∧
    (writeEntry q np d).lib = (if np > q.lib.getD 0 then some np else q.lib) ∧
    (writeEntry q np d).count = q.count + 1 ∧ (writeEntry q np d).size = q.size ∧
    (writeEntry q np d).nextId = q.nextId + 1 ∧
    (writeEntry q np d).get np = some ⟨q.nextId, 1, d⟩ ∧
    (∀ o, (o < np ∨ np + HDR + d.length ≤ o) → (writeEntry q np d).get o = q.get o) := by
  have hp := fun q' : MsgQueue => get_put q' np ⟨q.nextId, 1, d⟩
  simp only [writeEntry]
  split <;> exact ⟨rfl, rfl, rfl, rfl, rfl, rfl, (hp _).1, (hp _).2⟩

theorem place_up (q : MsgQueue) (up : List MEntry) (f l : Nat) (d : List Nat)
    (hcount : q.count = up.length) (hdata : ∀ x ∈ up, q.get x.1 = some x.2) (hfirst : q.first = some f)
    (hchain : MChain f up) (hfit : mEnd f up + (HDR + d.length) ≤ q.size) (hlib : q.lib = some l) (hl : l ≤ mEnd f up) :
    MqInv (writeEntry q (mEnd f up) d) (up ++ [(mEnd f up, newEntry q d)]) [] := by
  obtain ⟨hf, hla, hli, hc, hs, _, hg, hgo⟩ := writeEntry_fields q (mEnd f up) d
  refine (MqInv.ne_iff (by simp)).mpr ⟨by rw [hc, hcount]; simp, ?_, f, by rw [hf, hfirst],
    (mChain_snoc ..).mpr ⟨hchain, rfl⟩, by simpa [mEnd_snoc, hs, esz, newEntry, Nat.add_assoc] using hfit, ?_, by rw [List.append_nil, mLast_snoc, hla],
    trivial, absurd rfl⟩
  · intro x hx
    rcases List.mem_append.mp (List.append_nil _ ▸ hx) with hx | hx
    · have := ((mChain_bounds _ _ hchain).2 x hx).2
      have := esz_pos x
      rw [hgo x.1 (Or.inl (by omega))]; exact hdata x hx
    · cases List.mem_singleton.mp hx; exact hg
  · rw [mLast_snoc, hli, hlib, Option.getD_some]
    split
    · rfl
    · congr 1; omega

theorem place_low (q : MsgQueue) (up low : List MEntry) (d : List Nat) (hp : MqPre q up low) (hne : up ≠ [])
    (hfit : mEnd 0 low + (HDR + d.length) ≤ q.first.getD 0) :
    MqInv (writeEntry q (mEnd 0 low) d) up (low ++ [(mEnd 0 low, newEntry q d)]) := by
  obtain ⟨hf, hla, hli, hc, hs, _, hg, hgo⟩ := writeEntry_fields q (mEnd 0 low) d
  obtain ⟨hcount, hdata, f, hfirst, hchain, he, hlib, hlc, _⟩ := (MqPre.ne_iff hne).mp hp
  rw [hfirst, Option.getD_some] at hfit
  have hml := mLast_bounds f up hchain hne
  refine (MqInv.ne_iff hne).mpr ⟨by rw [hc, hcount]; simp; omega, ?_, f, by rw [hf, hfirst], hchain, by rw [hs]; exact he,
    ?_, by rw [← List.append_assoc, mLast_snoc, hla], (mChain_snoc ..).mpr ⟨hlc, rfl⟩,
    fun _ => by simpa [mEnd_snoc, esz, newEntry, Nat.add_assoc] using hfit⟩
  · intro x hx
    rcases List.mem_append.mp hx with hx | hx
    · have := ((mChain_bounds _ _ hchain).2 x hx).1
      rw [hgo x.1 (Or.inr (by omega))]; exact hdata x (List.mem_append_left _ hx)
    · rcases List.mem_append.mp hx with hx | hx
      · have := ((mChain_bounds _ _ hlc).2 x hx).2
        have := esz_pos x
        rw [hgo x.1 (Or.inl (by omega))]; exact hdata x (List.mem_append_right _ hx)
      · cases List.mem_singleton.mp hx; exact hg
  · rw [hli, hlib, Option.getD_some, if_neg (by omega)]

theorem mChain_suffix (o : Nat) (a : List MEntry) (y : MEntry) (ys : List MEntry) (h : MChain o (a ++ y :: ys)) :
    MChain y.1 (y :: ys) ∧ mEnd y.1 (y :: ys) = mEnd o (a ++ y :: ys) ∧ mLast (y :: ys) = mLast (a ++ y :: ys) := by
  obtain ⟨_, h2⟩ := (mChain_append o a (y :: ys)).mp h
  exact ⟨h2.1 ▸ h2, by rw [mEnd_append, h2.1], (mLast_append _ _ (by simp)).symm⟩

/-- the end of a non-empty chain, as the C code computes it from the chain's last entry -/
theorem mEnd_eq_last {q : MsgQueue} (o : Nat) (xs : List MEntry) (h : MChain o xs) (hne : xs ≠ [])
    (hg : ∀ x ∈ xs, q.get x.1 = some x.2) : mEnd o xs = mLast xs + HDR + q.esize (mLast xs) := by
  obtain ⟨L, z, rfl⟩ := snoc_of_ne hne
  rw [mEnd_snoc, mLast_snoc, esize_of (hg z (by simp)), ← ((mChain_snoc ..).mp h).2, esz, Nat.add_assoc]

/-- the two runs after the entries of `A` below `bound` were evicted and `x` was put behind `B` -/
def evictPlace (bound : Nat) (A B : List MEntry) (x : MEntry) : List MEntry × List MEntry :=
  if inWay bound A = A.length then (B ++ [x], []) else (A.drop (inWay bound A), B ++ [x])

theorem evict_place (q : MsgQueue) (A B : List MEntry) (d : List Nat) (hp : MqPre q A B) (hA : A ≠ [])
    (hfit : mEnd 0 B + (HDR + d.length) ≤ q.size) :
    MqInv (writeEntry (evictLoop q (mEnd 0 B) (HDR + d.length) (q.count + 1)) (mEnd 0 B) d)
      (evictPlace (mEnd 0 B + (HDR + d.length)) A B (mEnd 0 B, newEntry q d)).1
      (evictPlace (mEnd 0 B + (HDR + d.length)) A B (mEnd 0 B, newEntry q d)).2 := by
  obtain ⟨hcount, hdata, f, hfirst, hchain, he, hlib, hlc, hle⟩ := (MqPre.ne_iff hA).mp hp
  obtain ⟨u0, rest, rfl⟩ := List.exists_cons_of_ne_nil hA
  obtain rfl : u0.1 = f := hchain.1
  rw [evict_spec _ _ _ q u0 rest rfl hfirst hchain (fun x hx => hdata x (List.mem_append_left _ hx)) hlib
    (by omega) _ (by omega)]
  unfold evictPlace
  generalize hk : inWay (mEnd 0 B + (HDR + d.length)) (u0 :: rest) = k
  have hkle := hk ▸ inWay_le _ (u0 :: rest)
  have hrest := hk ▸ inWay_rest _ _ _ hchain
  by_cases hall : k = (u0 :: rest).length
  · rw [if_pos hall, if_pos hall]
    exact place_up _ B 0 _ d (by show q.count - _ = _; omega) (fun x hx => hdata x (List.mem_append_right _ hx)) rfl hlc
      hfit rfl (Nat.le_refl _)
  · rw [if_neg hall, if_neg hall]
    obtain ⟨y, ys, hys⟩ := List.exists_cons_of_ne_nil (l := (u0 :: rest).drop k)
      (fun hn => hall (Nat.le_antisymm hkle (List.drop_eq_nil_iff.mp hn)))
    have hsplit : u0 :: rest = (u0 :: rest).take k ++ y :: ys := by rw [← hys, List.take_append_drop]
    obtain ⟨hcy, hey, hly⟩ := mChain_suffix u0.1 _ y ys (hsplit ▸ hchain)
    rw [← hsplit] at hey hly
    have hy := hrest y (by simp [hys])
    rw [hys] at hrest ⊢
    refine place_low _ (y :: ys) B d ((MqPre.ne_iff (by simp)).mpr ⟨?_, ?_, y.1, rfl, hcy, hey ▸ he, hly ▸ hlib, hlc, fun _ => by omega⟩)
      (by simp) (by show _ ≤ y.1; omega)
    · show q.count - k = _
      rw [hcount, ← hys, List.length_drop]
      exact Nat.sub_add_comm hkle
    · intro x hx
      refine hdata x ?_
      rcases List.mem_append.mp hx with hx | hx
      · exact List.mem_append_left _ (List.mem_of_mem_drop (hys ▸ hx))
      · exact List.mem_append_right _ hx

theorem mq_enqueue_big (q : MsgQueue) (d : List Nat) (h : d.length > 250) : q.enqueue d = q := by
  simp [MsgQueue.enqueue, h]

theorem mq_enqueue_empty (q : MsgQueue) (d : List Nat) (hd : d.length ≤ 250) (hc : q.count = 0) :
    q.enqueue d = writeEntry { q with first := some 0, lib := some 0 } 0 d := by
  have h1 : ¬ (d.length > 250) := by omega
  simp [MsgQueue.enqueue, h1, hc]

/-- `l`, `f`: the offsets `lastEntry` and `firstEntry` as the C code reads them (0 stands for a null pointer);
`np`: the position behind the newest entry -/
theorem mq_enqueue_fits (q : MsgQueue) (d : List Nat) (hd : d.length ≤ 250) (hc : q.count > 0) (l f np : Nat)
    (hl : q.last.getD 0 = l) (hf : q.first.getD 0 = f) (hnp : l + HDR + q.esize l = np)
    (hfit : np + (HDR + d.length) ≤ q.size) :
    q.enqueue d = writeEntry (if np ≤ f then evictLoop q np (HDR + d.length) (q.count + 1) else q) np d := by
  have h1 : ¬ (d.length > 250) := by omega
  have hc0 : ¬ (q.count = 0) := by omega
  by_cases hnf : np ≤ f <;> simp [MsgQueue.enqueue, h1, hc0, hl, hf, hnp, Nat.not_lt.mpr hfit, hnf]

theorem mq_enqueue_wrap_unwrapped (q : MsgQueue) (d : List Nat) (hd : d.length ≤ 250) (hc : q.count > 0) (l f np : Nat)
    (hl : q.last.getD 0 = l) (hf : q.first.getD 0 = f) (hnp : l + HDR + q.esize l = np)
    (hnofit : ¬ np + (HDR + d.length) ≤ q.size) (hnf : ¬ np ≤ f) :
    q.enqueue d =
      writeEntry (evictLoop (if l ≥ f then { q with lib := q.last } else q) 0 (HDR + d.length) (q.count + 1)) 0 d := by
  have h1 : ¬ (d.length > 250) := by omega
  have hc0 : ¬ (q.count = 0) := by omega
  by_cases hlf : l ≥ f <;> simp [MsgQueue.enqueue, h1, hc0, hl, hf, hnp, Nat.lt_of_not_le hnofit, hnf, hlf]

theorem mq_enqueue_wrap_wrapped (q : MsgQueue) (d : List Nat) (hd : d.length ≤ 250) (hc : q.count > 0) (l f np : Nat)
    (hl : q.last.getD 0 = l) (hf : q.first.getD 0 = f) (hnp : l + HDR + q.esize l = np)
    (hnofit : ¬ np + (HDR + d.length) ≤ q.size) (hnf : np ≤ f) :
    q.enqueue d =
      writeEntry (evictLoop { q with count := q.count - countUntilEnd q (q.count + 1) f, first := some 0, lib := q.last } 0
        (HDR + d.length) (q.count - countUntilEnd q (q.count + 1) f + 1)) 0 d := by
  have h1 : ¬ (d.length > 250) := by omega
  have hc0 : ¬ (q.count = 0) := by omega
  simp [MsgQueue.enqueue, h1, hc0, hl, hf, hnp, Nat.lt_of_not_le hnofit, hnf]

theorem evictLoop_fixed (np es : Nat) : ∀ (fuel : Nat) (q : MsgQueue),
    (evictLoop q np es fuel).size = q.size ∧ (evictLoop q np es fuel).nextId = q.nextId
  | 0, _ => ⟨rfl, rfl⟩
  | fuel + 1, q => by
    rw [evictLoop_succ]
    split
    · split
      · exact ⟨rfl, rfl⟩
      · exact evictLoop_fixed np es fuel _
    · exact ⟨rfl, rfl⟩

/-- whatever the pointers are (no invariant assumed), an accepted entry is written by `writeEntry` into a ring of the
same size and id counter -/
theorem enqueue_eq_writeEntry (q : MsgQueue) (d : List Nat) (hd : d.length ≤ 250) :
    ∃ q1 np, q.enqueue d = writeEntry q1 np d ∧ q1.size = q.size ∧ q1.nextId = q.nextId := by
  by_cases hc : q.count = 0
  · exact ⟨_, _, mq_enqueue_empty q d hd hc, rfl, rfl⟩
  · have hc := Nat.pos_of_ne_zero hc
    by_cases hfit : q.last.getD 0 + HDR + q.esize (q.last.getD 0) + (HDR + d.length) ≤ q.size
    · refine ⟨_, _, mq_enqueue_fits q d hd hc _ _ _ rfl rfl rfl hfit, ?_⟩
      split
      · exact evictLoop_fixed ..
      · exact ⟨rfl, rfl⟩
    · by_cases hnf : q.last.getD 0 + HDR + q.esize (q.last.getD 0) ≤ q.first.getD 0
      · exact ⟨_, _, mq_enqueue_wrap_wrapped q d hd hc _ _ _ rfl rfl rfl hfit hnf, evictLoop_fixed ..⟩
      · refine ⟨_, _, mq_enqueue_wrap_unwrapped q d hd hc _ _ _ rfl rfl rfl hfit hnf, ?_⟩
        split <;> exact evictLoop_fixed ..

theorem enqueue_size (q : MsgQueue) (d : List Nat) : (q.enqueue d).size = q.size := by
  by_cases hd : d.length ≤ 250
  · obtain ⟨q1, np, he, hs, _⟩ := enqueue_eq_writeEntry q d hd
    rw [he, (writeEntry_fields q1 np d).2.2.2.2.1, hs]
  · rw [mq_enqueue_big q d (by omega)]

def headOff (xs : List MEntry) : Nat := (xs.head?.map (·.1)).getD 0

theorem headOff_chain {o : Nat} {xs : List MEntry} (h : MChain o xs) (hne : xs ≠ []) : headOff xs = o := by
  obtain ⟨x, r, rfl⟩ := List.exists_cons_of_ne_nil hne; exact h.1

/-- the two runs after an entry `e` was enqueued into a ring of `size` octets: behind the newest entry when it fits
there, else at the buffer start; the oldest entries in its way are displaced -/
def placeIn (size : Nat) (up low : List MEntry) (e : QEntry) : List MEntry × List MEntry :=
  if low = [] then
    if mEnd (headOff up) up + (HDR + e.data.length) ≤ size then (up ++ [(mEnd (headOff up) up, e)], [])
    else evictPlace (0 + (HDR + e.data.length)) up [] (0, e)
  else
    if mEnd 0 low + (HDR + e.data.length) ≤ size then evictPlace (mEnd 0 low + (HDR + e.data.length)) up low (mEnd 0 low, e)
    else evictPlace (0 + (HDR + e.data.length)) low [] (0, e)

/-- 266 = `HDR` + 250: the largest accepted entry fits into the empty ring (`hes`) -/
theorem enqueue_place (q : MsgQueue) (up low : List MEntry) (h : MqInv q up low) (d : List Nat)
    (hd : d.length ≤ 250) (hsize : 266 ≤ q.size) :
    MqInv (q.enqueue d) (placeIn q.size up low (newEntry q d)).1 (placeIn q.size up low (newEntry q d)).2 := by
  have hes : 0 + (HDR + d.length) ≤ q.size := by simp only [HDR]; omega
  simp only [placeIn, show (newEntry q d).data = d from rfl]
  by_cases hup : up = []
  · obtain ⟨rfl, rfl⟩ : up = [] ∧ low = [] := ⟨hup, h.lowup hup⟩
    rw [mq_enqueue_empty q d hd (h.count_eq_zero.mpr ⟨rfl, rfl⟩), if_pos rfl, if_pos (show mEnd (headOff []) [] + (HDR + d.length) ≤ q.size from hes)]
    exact place_up _ [] 0 0 d h.count (by simp) rfl trivial hes rfl (Nat.le_refl _)
  · obtain ⟨hcount, hdata, f, hfirst, hchain, he, hlib, hlast, hlc, hle⟩ := (MqInv.ne_iff hup).mp h
    have hcnt : q.count > 0 := Nat.pos_of_ne_zero fun hc => hup (h.count_eq_zero.mp hc).1
    have hf := headOff_chain hchain hup
    have hfirstD : q.first.getD 0 = f := by rw [hfirst]; rfl
    have hmlU := mLast_bounds f up hchain hup
    have hdataU : ∀ x ∈ up, q.get x.1 = some x.2 := fun x hx => hdata x (List.mem_append_left _ hx)
    have hdataL : ∀ x ∈ low, q.get x.1 = some x.2 := fun x hx => hdata x (List.mem_append_right _ hx)
    by_cases hlow : low = []
    · subst hlow
      rw [List.append_nil] at hlast
      have hlastD : q.last.getD 0 = mLast up := by rw [hlast]; rfl
      rw [List.length_nil, Nat.add_zero] at hcount
      have hE := mEnd_eq_last f up hchain hup hdataU
      rw [if_pos rfl, hf]
      by_cases hfit : mEnd f up + (HDR + d.length) ≤ q.size
      · rw [if_pos hfit, mq_enqueue_fits q d hd hcnt _ f _ hlastD hfirstD hE.symm hfit, if_neg (by omega)]
        exact place_up q up f _ d hcount hdataU hfirst hchain hfit hlib (by omega)
      · rw [if_neg hfit, mq_enqueue_wrap_unwrapped q d hd hcnt _ f _ hlastD hfirstD hE.symm hfit (by omega), if_pos hmlU.1]
        exact evict_place { q with lib := q.last } up [] d
          ((MqPre.ne_iff hup).mpr ⟨hcount, fun x hx => hdataU x (by simpa using hx), f, hfirst, hchain, he, hlast, trivial, absurd rfl⟩)
          hup hes
    · have hle := hle hlow
      rw [mLast_append _ _ hlow] at hlast
      have hlastD : q.last.getD 0 = mLast low := by rw [hlast]; rfl
      have hE := mEnd_eq_last 0 low hlc hlow hdataL
      rw [if_neg hlow]
      by_cases hfit : mEnd 0 low + (HDR + d.length) ≤ q.size
      · rw [if_pos hfit, mq_enqueue_fits q d hd hcnt _ f _ hlastD hfirstD hE.symm hfit, if_pos hle]
        exact evict_place q up low d h.toPre hup hfit
      · rw [if_neg hfit, mq_enqueue_wrap_wrapped q d hd hcnt _ f _ hlastD hfirstD hE.symm hfit hle]
        -- the whole upper run goes first
        obtain ⟨L, z, rfl⟩ := snoc_of_ne hup
        rw [mLast_snoc] at hlib
        rw [List.length_append, List.length_singleton] at hcount
        have hcu : q.count - countUntilEnd q (q.count + 1) f = low.length := by
          rw [show q.count + 1 = L.length + 1 + (low.length + 1) by omega, countUntilEnd_spec q L f z hchain hdataU hlib]
          omega
        rw [hcu]
        have hmlL := mLast_bounds 0 low hlc hlow
        exact evict_place { q with count := low.length, first := some 0, lib := q.last } low [] d
          ((MqPre.ne_iff hlow).mpr ⟨by simp, fun x hx => hdataL x (by simpa using hx), 0, rfl, hlc, by show _ ≤ q.size; omega, hlast, trivial,
            absurd rfl⟩) hlow hes

theorem evictPlace_append (bound : Nat) (A B : List MEntry) (x : MEntry) :
    (evictPlace bound A B x).1 ++ (evictPlace bound A B x).2 = (A ++ B).drop (inWay bound A) ++ [x] := by
  have := inWay_le bound A
  unfold evictPlace
  rw [List.drop_append_of_le_length this]
  split
  · rename_i h; simp [h]
  · simp

theorem placeIn_append (size : Nat) (up low : List MEntry) (e : QEntry) :
    ∃ k o, (placeIn size up low e).1 ++ (placeIn size up low e).2 = (up ++ low).drop k ++ [(o, e)] := by
  unfold placeIn
  split
  · rename_i hlow; subst hlow
    split
    · exact ⟨0, mEnd (headOff up) up, by simp⟩
    · exact ⟨_, _, evictPlace_append ..⟩
  · split
    · exact ⟨_, _, evictPlace_append ..⟩
    · refine ⟨up.length + inWay (0 + (HDR + e.data.length)) low, 0, (evictPlace_append ..).trans ?_⟩
      rw [List.append_nil, List.drop_append, List.drop_of_length_le (Nat.le_add_right ..), Nat.add_sub_cancel_left]; rfl

theorem mq_enqueue_refines (q : MsgQueue) (up low : List MEntry) (h : MqInv q up low) (d : List Nat)
    (hd : d.length ≤ 250) (hsize : 266 ≤ q.size) :
    ∃ up' low' k, MqInv (q.enqueue d) up' low' ∧
      MqInv.abs up' low' = (MqInv.abs up low).drop k ++ [newEntry q d] := by
  obtain ⟨k, o, hk⟩ := placeIn_append q.size up low (newEntry q d)
  exact ⟨_, _, k, enqueue_place q up low h d hd hsize, by simp [MqInv.abs, hk]⟩

end Iec.Queues
