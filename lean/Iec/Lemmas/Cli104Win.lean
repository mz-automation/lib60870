/-
The k-window of the client over every history of a connection: never more than k outstanding I-format APDUs, and the
k-buffer is always the consecutive run of acknowledgement numbers ending at V(S) (`WinInv`, the hypothesis of
`C04.checkSeq_spec`).  Only `sendAsdu` (guarded by `isSentBufferFull`), `checkMessage` (release) and `resetConnection`
touch (V(S), k-buffer).  The histories (`KOp`) of a connection object are defined here.
-/
import Iec.Lemmas.Cli104
namespace Iec.Cli104
open Iec.KWindow Iec.Srv104

/-- everything that can happen to a `CS104_Connection`: the application connects, sends, starts / stops data transfer,
closes; the thread runs from one blocking point to the next; the peer, the clock and the connect result change -/
inductive KOp where
  | connect
  | step
  | env (sock : Sock) (dt : Nat) (connectOk : Bool)
  | send (asdu : List Nat)
  | startdt
  | stopdt
  | close

def KOp.apply (c : Cli) : KOp → Cli
  | .connect => connectAsync c
  | .step => Iec.Cli104.step c
  | .env sk dt ok => { c with sock := sk, now := c.now + dt, connectOk := ok }
  | .send a => (sendAsdu c a).1
  | .startdt => sendStartDT c
  | .stopdt => sendStopDT c
  | .close => closeConn c

theorem ThreadInv.run {I : Cli → Prop} (hI : ThreadInv I) (hs : ∀ c a, I c → I (sendAsdu c a).1) (ops : List KOp) {c : Cli}
    (h : I c) : I (ops.foldl KOp.apply c) :=
  List.foldlRecOn ops KOp.apply h fun c h op _ => by
    cases op with
    | connect => exact hI.same {} h
    | step => exact hI.step h
    | env sk dt ok => exact hI.same {} h
    | send a => exact hs c a h
    | startdt => exact hI.calm (calm_sendStartDT c) h
    | stopdt => exact hI.calm (calm_sendStopDT c) h
    | close => exact hI.closeConn h

def CGood (k : Nat) (c : Cli) : Prop := c.k = k ∧ c.win.length ≤ k ∧ ∃ base, WinInv c.vs c.win base c.win.length

theorem CGood.release {k : Nat} {c c' : Cli} (h : CGood k c) (hp : c'.p = c.p) (hm : c'.maxSent = c.maxSent)
    (hv : c'.vs = c.vs) (hw : ∃ d, d ≤ c.win.length ∧ c'.win = c.win.drop d) : CGood k c' := by
  obtain ⟨hk, h1, base, hb⟩ := h
  obtain ⟨d, hd, he⟩ := hw
  refine ⟨by unfold Cli.k; rw [hp, hm]; exact hk, by rw [he, List.length_drop]; omega, (base + d) % 32768, ?_⟩
  rw [he, hv, List.length_drop]
  exact winInv_drop c.vs c.win base c.win.length d hb hd

theorem winInv_empty : WinInv 0 [] 0 0 := ⟨by decide, by decide, rfl, rfl⟩

/-- a (re)connect starts with an empty window, everything else the thread does only releases -/
theorem cgood_thread (k : Nat) : ThreadInv (CGood k) where
  same hs h := h.release hs.p hs.maxSent hs.vs ⟨0, Nat.zero_le _, hs.win⟩
  calm hc h := h.release hc.moves.p hc.moves.maxSent hc.moves.vs hc.moves.win
  reset h := ⟨h.1, Nat.zero_le _, 0, winInv_empty⟩
  body {c} h := by
    obtain ⟨buf, sk, hb⟩ := reception_loopBody c
    exact h.release hb.p hb.maxSent hb.vs hb.win

/-- The bound on k is that of `WinInv`, which is stated for fewer than 32767 entries; k = 32767, the largest the 15-bit
counters allow, is not covered. -/
theorem cgood_sendAsdu {k : Nat} {c : Cli} (a : List Nat) (hk0 : 0 < k) (hk : k < 32767) (h : CGood k c) :
    CGood k (sendAsdu c a).1 := by
  rcases sendAsdu_cases c a with e | ⟨hnf, e⟩ <;> rw [e]
  · exact h
  · obtain ⟨hk', h1, base, hb⟩ := h
    rw [hk'] at hnf
    have hl := length_succ_le_of_not_full hk0 h1 hnf
    refine ⟨hk', ?_, base, ?_⟩
    · show (c.win ++ [_]).length ≤ k
      rw [List.length_append]; exact hl
    · show WinInv _ (c.win ++ [_]) base (c.win ++ [_]).length
      rw [List.length_append]
      exact winInv_push c.vs c.win base c.win.length hb (by show c.win.length + 1 < 32767; omega) _ rfl

theorem run_cgood (p : Params) (hk0 : 0 < p.k) (hk : p.k < 32767) (ops : List KOp) :
    CGood p.k (ops.foldl KOp.apply { p := p }) :=
  (cgood_thread p.k).run (fun _ a h => cgood_sendAsdu a hk0 hk h) ops ⟨rfl, Nat.zero_le _, 0, winInv_empty⟩

end Iec.Cli104
