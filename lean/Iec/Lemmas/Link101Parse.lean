/-
FT 1.2 framing, encoder against parser.  The header checks of both parsers in closed form (`HeaderOk`,
`secHeader_ok_iff`, `parseBP_eq`); every well-formed frame (`WellFormed`, whichever encoder produced it) is delimited
by the transceiver (`readNext_wf`) and passes the checks (`headerOk_of_wf`); the control octet and the address are read
back from where the encoders put them (`ctrl_decode`, `fields_of_body`).  The statements about `fixedFrame` and
`varFrame` are corollaries.
-/
import Iec.Model.Link101
namespace Iec.Link101

/-- the station address fits the configured width and is not the broadcast address -/
def AddrOk (aL a : Nat) : Prop := (aL = 0 ∧ a = 0) ∨ (aL = 1 ∧ a < 255) ∨ (aL = 2 ∧ a < 65535)

theorem varFrame_eq_some {aL c a : Nat} {d f : List Nat} : varFrame aL c a d = some f ↔
    1 + aL + d.length ≤ 255 ∧ f = [0x68, 1 + aL + d.length, 1 + aL + d.length, 0x68] ++ (c :: addrBytes aL a ++ d) ++
      [sum8 (c :: addrBytes aL a ++ d), 0x16] := by
  unfold varFrame
  simp only []
  split
  · exact ⟨nofun, fun h => by omega⟩
  · exact ⟨fun h => ⟨by omega, (Option.some.inj h).symm⟩, fun h => congrArg some h.2.symm⟩

theorem fixedFrame_length (aL c a : Nat) (hA : aL ≤ 2) : (fixedFrame aL c a).length = 4 + aL := by
  simp [fixedFrame, addrBytes_length aL a hA]; omega

theorem digit_split (k x r : Nat) (hx : x < k) : (x + k * r) % k = x ∧ (x + k * r) / k = r := by
  rw [Nat.add_mul_mod_self_left, Nat.mod_eq_of_lt hx, Nat.add_mul_div_left _ _ (Nat.zero_lt_of_lt hx),
    Nat.div_eq_of_lt hx, Nat.zero_add]
  exact ⟨rfl, rfl⟩

theorem b2n_bit (x : Bool) : b2n x < 2 ∧ decide (b2n x = 1) = x := by cases x <;> exact ⟨by decide, rfl⟩

theorem ctrl_decode (fc : Nat) (prm dir a b : Bool) (hfc : fc < 16) :
    ctrl fc prm dir a b % 16 = fc ∧ decide (ctrl fc prm dir a b / 64 % 2 = 1) = prm ∧
    decide (ctrl fc prm dir a b / 32 % 2 = 1) = a ∧ decide (ctrl fc prm dir a b / 16 % 2 = 1) = b := by
  -- the octet as a numeral: `fc` below the binary digits `b`, `a`, `prm`, `dir`, read off one at a time
  have hc : ctrl fc prm dir a b = fc + 16 * (b2n b + 2 * (b2n a + 2 * (b2n prm + 2 * b2n dir))) := by
    have := (b2n_bit prm).1; have := (b2n_bit dir).1; have := (b2n_bit a).1; have := (b2n_bit b).1
    unfold ctrl
    rw [Nat.mod_eq_of_lt hfc, Nat.mod_eq_of_lt (by omega)]
    omega
  obtain ⟨m0, d0⟩ := digit_split 16 fc (b2n b + 2 * (b2n a + 2 * (b2n prm + 2 * b2n dir))) hfc
  obtain ⟨m1, d1⟩ := digit_split 2 (b2n b) (b2n a + 2 * (b2n prm + 2 * b2n dir)) (b2n_bit b).1
  obtain ⟨m2, d2⟩ := digit_split 2 (b2n a) (b2n prm + 2 * b2n dir) (b2n_bit a).1
  obtain ⟨m3, -⟩ := digit_split 2 (b2n prm) (b2n dir) (b2n_bit prm).1
  rw [hc, m0, ← Nat.div_div_eq_div_mul _ 16 (2 * 2), ← Nat.div_div_eq_div_mul _ 16 2, d0, m1,
    ← Nat.div_div_eq_div_mul _ 2 2, d1, m2, d2, m3]
  exact ⟨rfl, (b2n_bit prm).2, (b2n_bit a).2, (b2n_bit b).2⟩

theorem g_append_left (a b : List Nat) (i : Nat) (h : i < a.length) : g (a ++ b) i = g a i := by
  unfold g; simp [List.getD_eq_getElem?_getD, List.getElem?_append_left h]

theorem g_append_right (a b : List Nat) (i : Nat) (h : a.length ≤ i) : g (a ++ b) i = g b (i - a.length) := by
  unfold g; simp [List.getD_eq_getElem?_getD, List.getElem?_append_right h]

theorem g_prefix {f r : List Nat} {i x : Nat} (h : f[i]? = some x) : g (f ++ r) i = x := by
  unfold g
  rw [List.getD_eq_getElem?_getD, List.getElem?_append_left (List.getElem?_eq_some_iff.mp h).1, h]
  rfl

theorem take_drop_prefix {f r : List Nat} {i k : Nat} (h : i + k ≤ f.length) :
    ((f ++ r).drop i).take k = (f.drop i).take k := by
  rw [List.drop_append_of_le_length (by omega), List.take_append_of_le_length (by simp; omega)]

theorem sizeOk_iff (l : LL) (n : Nat) : sizeOk l n ↔ n = g l.buf 1 + 6 := by
  unfold sizeOk hUdStart hUdLen; omega

theorem checksumOk_var (l : LL) (hv : isVar l) :
    checksumOk l ↔ sum8 ((l.buf.drop 4).take (g l.buf 1)) = g l.buf (g l.buf 1 + 4) := by
  unfold checksumOk hCsStart hCsIndex hUdStart hUdLen
  rw [if_pos hv, if_pos hv]
  have e1 : ((5 + l.p.addrLen : Nat) : Int) + ((g l.buf 1 : Int) - l.p.addrLen - 1) - ((4 : Nat) : Int) = ((g l.buf 1 : Nat) : Int) := by omega
  have e2 : ((5 + l.p.addrLen : Nat) : Int) + ((g l.buf 1 : Int) - l.p.addrLen - 1) = ((g l.buf 1 + 4 : Nat) : Int) := by omega
  rw [e1, e2, Int.toNat_natCast, Int.toNat_natCast]

theorem checksumOk_fixed (l : LL) (hv : ¬ isVar l) :
    checksumOk l ↔ sum8 ((l.buf.drop 1).take (1 + l.p.addrLen)) = g l.buf (2 + l.p.addrLen) := by
  unfold checksumOk hCsStart hCsIndex
  rw [if_neg hv, if_neg hv]
  have e1 : ((2 : Int) + (l.p.addrLen : Int)) - ((1 : Nat) : Int) = ((1 + l.p.addrLen : Nat) : Int) := by omega
  have e2 : ((2 : Int) + (l.p.addrLen : Int)) = ((2 + l.p.addrLen : Nat) : Int) := by omega
  rw [e1, e2, Int.toNat_natCast, Int.toNat_natCast]

/-- what both parsers (`secHeader`, `parseBP`) require of the `n` octets in the buffer before they look at control
octet and address -/
def HeaderOk (l : LL) (n : Nat) : Prop :=
  (isVar l ∨ isFixed l) ∧ (isVar l → g l.buf 1 = g l.buf 2 ∧ n = g l.buf 1 + 6) ∧ checksumOk l

instance (l : LL) (n : Nat) : Decidable (HeaderOk l n) := by unfold HeaderOk; infer_instance

/-- `HeaderOk` as the negations of the tests the C code makes -/
theorem headerOk_iff_checks (l : LL) (n : Nat) : HeaderOk l n ↔
    ¬ (isVar l ∧ g l.buf 1 ≠ g l.buf 2) ∧ ¬ (isVar l ∧ ¬ sizeOk l n) ∧ ¬ (¬ isVar l ∧ ¬ isFixed l) ∧ checksumOk l := by
  unfold HeaderOk
  rw [sizeOk_iff]
  by_cases hv : isVar l <;> by_cases hf : isFixed l <;> simp [hv, hf, Decidable.not_not, and_assoc]

theorem parseBP_eq (l : LL) (n : Nat) (h : g l.buf 0 ≠ 0xe5) : parseBP l n =
    if HeaderOk l n then some ⟨false, hCtrl l, frameAddress l, if isVar l then hUdStart l else 0, if isVar l then hUdLen l else 0⟩
    else none := by
  have hk := headerOk_iff_checks l n
  unfold parseBP
  rw [if_neg h]
  by_cases h1 : isVar l ∧ g l.buf 1 ≠ g l.buf 2
  · rw [if_pos h1, if_neg fun hok => (hk.mp hok).1 h1]
  rw [if_neg h1]
  by_cases h2 : isVar l ∧ ¬ sizeOk l n
  · rw [if_pos h2, if_neg fun hok => (hk.mp hok).2.1 h2]
  rw [if_neg h2]
  by_cases h3 : ¬ isVar l ∧ ¬ isFixed l
  · rw [if_pos h3, if_neg fun hok => (hk.mp hok).2.2.1 h3]
  rw [if_neg h3]
  by_cases h4 : checksumOk l
  · rw [if_neg (not_not_intro h4), if_pos (hk.mpr ⟨h1, h2, h3, h4⟩)]
  · rw [if_pos h4, if_neg fun hok => h4 (hk.mp hok).2.2.2]

theorem error_ite_eq_ok {c : Prop} [Decidable c] {y : Verdict} {fc : Nat} {bc fcb fcv : Bool} {us : Nat} {ul : Int} :
    (if c then .error else y) = Verdict.ok fc bc fcb fcv us ul ↔ ¬ c ∧ y = .ok fc bc fcb fcv us ul := by
  by_cases h : c <;> simp [h]

theorem ignore_ite_eq_ok {c : Prop} [Decidable c] {y : Verdict} {fc : Nat} {bc fcb fcv : Bool} {us : Nat} {ul : Int} :
    (if c then .ignore else y) = Verdict.ok fc bc fcb fcv us ul ↔ ¬ c ∧ y = .ok fc bc fcb fcv us ul := by
  by_cases h : c <;> simp [h]

theorem secHeader_ok_iff (l : LL) (n fc : Nat) (bc fcb fcv : Bool) (us : Nat) (ul : Int) :
    secHeader l n = .ok fc bc fcb fcv us ul ↔
      HeaderOk l n ∧ (isBroadcast l → hCtrl l % 16 = 4) ∧ (¬ isBroadcast l → frameAddress l = l.address) ∧
      hCtrl l / 64 % 2 = 1 ∧
      Verdict.ok (hCtrl l % 16) (decide (isBroadcast l)) (hCtrl l / 32 % 2 = 1) (hCtrl l / 16 % 2 = 1)
        (if isVar l then hUdStart l else 0) (if isVar l then hUdLen l else 0) = .ok fc bc fcb fcv us ul := by
  unfold secHeader
  rw [headerOk_iff_checks, error_ite_eq_ok, error_ite_eq_ok, error_ite_eq_ok, error_ite_eq_ok, ignore_ite_eq_ok,
    error_ite_eq_ok, error_ite_eq_ok]
  constructor
  · rintro ⟨h1, h2, h3, h4, h5, h6, h7, h8⟩
    exact ⟨⟨h1, h2, h3, Decidable.not_not.mp h6⟩, fun hb => Decidable.not_not.mp fun hn => h4 ⟨hb, hn⟩,
      fun hb => Decidable.not_not.mp fun hn => h5 ⟨hb, hn⟩, by omega, h8⟩
  · rintro ⟨⟨h1, h2, h3, h6⟩, h4, h5, h7, h8⟩
    exact ⟨h1, h2, h3, fun h => h.2 (h4 h.1), fun h => h.2 (h5 h.1), not_not_intro h6, by omega, h8⟩

theorem writeAt_prefix (buf a r : List Nat) (n : Nat) (hn : n = a.length) :
    writeAt (writeAt buf 0 a) n r = a ++ r ++ buf.drop (n + r.length) := by
  subst hn
  unfold writeAt
  simp [List.drop_append, Nat.add_comm]

theorem readNext_wf (aL : Nat) (f buf : List Nat) (hw : WellFormed aL f) :
    readNext aL f buf = ([], f ++ buf.drop f.length, some f.length) := by
  rcases hw with rfl | ⟨hl, h0, -, -⟩ | ⟨L, hl, -, -, h0, h1, -⟩
  · simp [readNext, writeAt]
  -- the number of octets the transceiver asks for is written as the length of what follows the start octets
  · match f, h0 with
    | _ :: rest, rfl =>
      have hr : rest.length = 3 + aL := by rw [List.length_cons] at hl; omega
      simp only [readNext]
      rw [← hr, List.take_of_length_le (Nat.le_refl _), List.drop_of_length_le (Nat.le_refl _), if_pos rfl,
        writeAt_prefix buf [0x10] rest 1 rfl, Nat.add_comm 1]
      rfl
  · match f, h0, h1 with
    | _ :: _ :: rest, rfl, rfl =>
      have hr : rest.length = L + 4 := by rw [List.length_cons, List.length_cons] at hl; omega
      simp only [readNext]
      rw [← hr, List.take_of_length_le (Nat.le_refl _), List.drop_of_length_le (Nat.le_refl _), if_pos rfl,
        writeAt_prefix buf [0x68, L] rest 2 rfl, Nat.add_comm 2]
      rfl

theorem headerOk_of_wf (l : LL) (f r : List Nat) (hw : WellFormed l.p.addrLen f) (h5 : f ≠ [0xe5]) (hb : l.buf = f ++ r) :
    HeaderOk l f.length ∧ g l.buf 0 ≠ 0xe5 ∧ (isVar l → g l.buf 1 + 6 = f.length) := by
  rcases hw with rfl | ⟨hl, h0, -, hcs⟩ | ⟨L, hl, -, -, h0, h1, h2, -, -, hcs⟩
  · exact absurd rfl h5
  · have g0 : g l.buf 0 = 0x10 := by rw [hb]; exact g_prefix h0
    have hv : ¬ isVar l := by unfold isVar; rw [g0]; decide
    refine ⟨⟨Or.inr g0, fun h => absurd h hv, (checksumOk_fixed l hv).mpr ?_⟩, by rw [g0]; decide, fun h => absurd h hv⟩
    rw [hb, take_drop_prefix (by omega), g_prefix hcs]
  · have g0 : g l.buf 0 = 0x68 := by rw [hb]; exact g_prefix h0
    have g1 : g l.buf 1 = L := by rw [hb]; exact g_prefix h1
    have g2 : g l.buf 2 = L := by rw [hb]; exact g_prefix h2
    refine ⟨⟨Or.inl g0, fun _ => ⟨g1.trans g2.symm, by omega⟩, (checksumOk_var l g0).mpr ?_⟩, by rw [g0]; decide,
      fun _ => by omega⟩
    rw [g1, hb, take_drop_prefix (by omega), g_prefix hcs]

theorem fields_of_body (l : LL) (hdr t : List Nat) (c a : Nat) (ha : AddrOk l.p.addrLen a) (hh : hdr.length = hCsStart l)
    (hb : l.buf = hdr ++ (c :: (addrBytes l.p.addrLen a ++ t))) :
    hCtrl l = c ∧ frameAddress l = a ∧ ¬ isBroadcast l := by
  have hc : hCtrl l = g l.buf (hCsStart l) := by unfold hCtrl hCsStart; split <;> rfl
  have gk : ∀ k, g l.buf (hCsStart l + k) = g (c :: (addrBytes l.p.addrLen a ++ t)) k := by
    intro k; rw [hb, g_append_right _ _ _ (by omega), ← hh, Nat.add_sub_cancel_left]
  refine ⟨by rw [hc, ← Nat.add_zero (hCsStart l), gk]; rfl, ?_⟩
  unfold isBroadcast frameAddress
  rw [gk 1, gk 2]
  rcases ha with ⟨h0, ha0⟩ | ⟨h1, ha1⟩ | ⟨h2, ha2⟩
  · simp [h0, ha0]
  · simp [h1, addrBytes, g]; omega
  · simp [h2, addrBytes, g]; omega

theorem readNext_varFrame (aL c a : Nat) (d f buf : List Nat) (hA : aL ≤ 2)
    (hv : varFrame aL c a d = some f) :
    readNext aL f buf = ([], f ++ buf.drop f.length, some f.length) ∧
    userDataOf (f ++ buf.drop f.length) (5 + aL) d.length = d := by
  refine ⟨readNext_wf aL f buf (varFrame_wf aL c a d f hA hv), ?_⟩
  obtain ⟨-, rfl⟩ := varFrame_eq_some.mp hv
  unfold userDataOf
  generalize List.drop _ buf = T
  have e : ∀ L cs, ([0x68, L, L, 0x68] ++ (c :: addrBytes aL a ++ d) ++ [cs, 0x16] ++ T) =
      ([0x68, L, L, 0x68, c] ++ addrBytes aL a) ++ (d ++ ([cs, 0x16] ++ T)) := by simp
  rw [e, List.drop_left' (by simp [addrBytes_length aL a hA]; omega)]
  simp

theorem readNext_fixedFrame (aL c a : Nat) (buf : List Nat) (hA : aL ≤ 2) :
    readNext aL (fixedFrame aL c a) buf =
      ([], fixedFrame aL c a ++ buf.drop (4 + aL), some (4 + aL)) := by
  rw [readNext_wf aL _ buf (fixedFrame_wf aL c a hA), fixedFrame_length aL c a hA]

theorem varFrame_buf (l : LL) (c a : Nat) (d f rest : List Nat) (ha : AddrOk l.p.addrLen a)
    (hv : varFrame l.p.addrLen c a d = some f) (hb : l.buf = f ++ rest) :
    HeaderOk l f.length ∧ g l.buf 0 ≠ 0xe5 ∧ hCtrl l = c ∧ frameAddress l = a ∧ ¬ isBroadcast l ∧
    isVar l ∧ hUdLen l = (d.length : Int) := by
  obtain ⟨hok, h5, hlen⟩ := headerOk_of_wf l f rest (varFrame_wf _ c a d f l.p.hA hv)
    (by rw [(varFrame_eq_some.mp hv).2]; simp) hb
  obtain ⟨-, rfl⟩ := varFrame_eq_some.mp hv
  have hvar : isVar l := by unfold isVar; rw [hb]; rfl
  obtain ⟨f1, f2, f3⟩ := fields_of_body l [0x68, 1 + l.p.addrLen + d.length, 1 + l.p.addrLen + d.length, 0x68]
    (d ++ [sum8 (c :: addrBytes l.p.addrLen a ++ d), 0x16] ++ rest) c a ha (by unfold hCsStart; rw [if_pos hvar]; rfl)
    (by rw [hb]; simp)
  refine ⟨hok, h5, f1, f2, f3, hvar, ?_⟩
  have := hlen hvar
  simp [addrBytes_length _ a l.p.hA] at this
  unfold hUdLen; omega

theorem fixedFrame_buf (l : LL) (c a : Nat) (rest : List Nat) (ha : AddrOk l.p.addrLen a)
    (hb : l.buf = fixedFrame l.p.addrLen c a ++ rest) (n : Nat) :
    HeaderOk l n ∧ g l.buf 0 ≠ 0xe5 ∧ hCtrl l = c ∧ frameAddress l = a ∧ ¬ isBroadcast l ∧ ¬ isVar l := by
  obtain ⟨hok, h5, -⟩ := headerOk_of_wf l _ rest (fixedFrame_wf _ c a l.p.hA) (by simp [fixedFrame]) hb
  have hnv : ¬ isVar l := by unfold isVar; rw [hb]; exact fun h => absurd (show (0x10 : Nat) = 0x68 from h) (by decide)
  obtain ⟨f1, f2, f3⟩ := fields_of_body l [0x10] ([sum8 (c :: addrBytes l.p.addrLen a), 0x16] ++ rest) c a ha
    (by unfold hCsStart; rw [if_neg hnv]; rfl) (by rw [hb]; simp [fixedFrame])
  exact ⟨⟨hok.1, fun h => absurd h hnv, hok.2.2⟩, h5, f1, f2, f3, hnv⟩

theorem secHeader_varFrame (l : LL) (fc : Nat) (fcb fcv : Bool) (d f rest : List Nat) (hfc : fc < 16)
    (ha : AddrOk l.p.addrLen l.address)
    (hv : varFrame l.p.addrLen (ctrl fc true false fcb fcv) l.address d = some f) (hb : l.buf = f ++ rest) :
    secHeader l f.length = .ok fc false fcb fcv (5 + l.p.addrLen) d.length := by
  obtain ⟨hok, -, hc, hadr, hnb, hvar, hul⟩ := varFrame_buf l _ _ d f rest ha hv hb
  obtain ⟨c1, c2, c3, c4⟩ := ctrl_decode fc true false fcb fcv hfc
  rw [secHeader_ok_iff, hc, c1, c3, c4, if_pos hvar, if_pos hvar, hul, decide_eq_false hnb]
  exact ⟨hok, fun h => absurd h hnb, fun _ => hadr, of_decide_eq_true c2, rfl⟩

theorem secHeader_fixedFrame (l : LL) (fc : Nat) (fcb fcv : Bool) (rest : List Nat) (hfc : fc < 16)
    (ha : AddrOk l.p.addrLen l.address)
    (hb : l.buf = fixedFrame l.p.addrLen (ctrl fc true false fcb fcv) l.address ++ rest) (n : Nat) :
    secHeader l n = .ok fc false fcb fcv 0 0 := by
  obtain ⟨hok, -, hc, hadr, hnb, hnv⟩ := fixedFrame_buf l _ _ rest ha hb n
  obtain ⟨c1, c2, c3, c4⟩ := ctrl_decode fc true false fcb fcv hfc
  rw [secHeader_ok_iff, hc, c1, c3, c4, if_neg hnv, if_neg hnv, decide_eq_false hnb]
  exact ⟨hok, fun h => absurd h hnb, fun _ => hadr, of_decide_eq_true c2, rfl⟩

theorem parseBP_varFrame (l : LL) (c a : Nat) (d f rest : List Nat) (ha : AddrOk l.p.addrLen a)
    (hv : varFrame l.p.addrLen c a d = some f) (hb : l.buf = f ++ rest) :
    parseBP l f.length = some ⟨false, c, a, 5 + l.p.addrLen, d.length⟩ := by
  obtain ⟨hok, h5, hc, hadr, -, hvar, hul⟩ := varFrame_buf l c a d f rest ha hv hb
  rw [parseBP_eq l _ h5, if_pos hok, hc, hadr, if_pos hvar, if_pos hvar, hul]
  rfl

theorem parseBP_fixedFrame (l : LL) (c a : Nat) (rest : List Nat) (ha : AddrOk l.p.addrLen a)
    (hb : l.buf = fixedFrame l.p.addrLen c a ++ rest) (n : Nat) :
    parseBP l n = some ⟨false, c, a, 0, 0⟩ := by
  obtain ⟨hok, h5, hc, hadr, -, hnv⟩ := fixedFrame_buf l c a rest ha hb n
  rw [parseBP_eq l _ h5, if_pos hok, hc, hadr, if_neg hnv, if_neg hnv]

end Iec.Link101
