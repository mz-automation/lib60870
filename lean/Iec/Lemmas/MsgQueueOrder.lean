/-
Order of transmission from the event ring: repeated `getNextWaitingASDU` hands out the waiting entries in queue
order (oldest first), each once; with `mq_enqueue_refines` (a new entry goes to the end) this is "events are
transmitted in the order they were enqueued".
-/
import Iec.Lemmas.MsgQueue
namespace Iec.Queues

def waiting (x : MEntry) : Bool := x.2.st == 1

theorem filter_after_mark : ∀ (L : List MEntry), L.Pairwise (fun a b => a.1 ≠ b.1) → ∀ x, L.find? waiting = some x →
    (L.map (updSt x.1 2)).filter waiting = (L.filter waiting).tail ∧ (L.filter waiting).head? = some x := by
  intro L
  induction L with
  | nil => intro _ x h; cases h
  | cons a L ih =>
    intro hp x hf
    obtain ⟨ha, hpL⟩ := List.pairwise_cons.mp hp
    by_cases hw : waiting a = true
    · -- a is the first waiting entry
      have hx : x = a := by simpa [List.find?_cons, hw] using hf.symm
      subst hx
      have hrest : L.map (updSt x.1 2) = L := by
        have : L.map (updSt x.1 2) = L.map id :=
          List.map_congr_left (fun b hb => by unfold updSt; rw [if_neg (fun h => ha b hb h.symm)]; rfl)
        rw [this, List.map_id]
      have hself : waiting (updSt x.1 2 x) = false := by simp [updSt, waiting]
      simp [List.filter, hw, hself, hrest]
    · have hw' : waiting a = false := by simpa using hw
      have hf' : L.find? waiting = some x := by simpa [List.find?_cons, hw'] using hf
      obtain ⟨i1, i2⟩ := ih hpL x hf'
      have hxm : x ∈ L := List.mem_of_find?_eq_some hf'
      have hne : a.1 ≠ x.1 := ha x hxm
      have hsame : updSt x.1 2 a = a := by unfold updSt; rw [if_neg hne]
      simp [List.filter, hw', hsame, i1, i2]

/-- call `getNextWaitingASDU` up to `n` times (stop when nothing is waiting) -/
def drain : Nat → MsgQueue → MsgQueue × List (Nat × Nat × List Nat)
  | 0, q => (q, [])
  | n + 1, q =>
    match q.getNextWaiting with
    | (q', none) => (q', [])
    | (q', some r) => ((drain n q').1, r :: (drain n q').2)

theorem drain_spec : ∀ (n : Nat) (q : MsgQueue) (up low : List MEntry), MqInv q up low →
    (drain n q).2.map (fun r => (r.1, r.2.2)) = (((up ++ low).filter waiting).take n).map (fun x => (x.2.id, x.2.data)) ∧
    ∃ up' low', MqInv (drain n q).1 up' low' ∧
      (up' ++ low').map (fun x => (x.2.id, x.2.data)) = (up ++ low).map (fun x => (x.2.id, x.2.data)) := by
  intro n
  induction n with
  | zero => intro q up low h; exact ⟨by simp [drain], up, low, h, rfl⟩
  | succ n ih =>
    intro q up low h
    have hg := getNextWaiting_refines q up low h
    have hfw : (fun x : MEntry => x.2.st == 1) = waiting := rfl
    rw [hfw] at hg
    cases hf : (up ++ low).find? waiting with
    | none =>
      rw [hf] at hg
      simp only at hg
      have hnone : (up ++ low).filter waiting = [] := by
        rw [List.filter_eq_nil_iff]
        intro a ha
        have := List.find?_eq_none.mp hf a ha
        simpa using this
      unfold drain
      rw [hg]
      simp only [hnone]
      exact ⟨by simp, up, low, h, rfl⟩
    | some x =>
      rw [hf] at hg
      simp only at hg
      obtain ⟨hq, hinv⟩ := hg
      obtain ⟨f1, f2⟩ := filter_after_mark (up ++ low) h.distinct x hf
      obtain ⟨i1, up', low', i2, i3⟩ := ih _ _ _ hinv
      unfold drain
      rw [hq]
      simp only [List.map_cons]
      refine ⟨?_, up', low', i2, ?_⟩
      · rw [i1, ← List.map_append, f1]
        cases hfl : (up ++ low).filter waiting with
        | nil => rw [hfl] at f2; cases f2
        | cons y ys =>
          rw [hfl] at f2
          have : y = x := by simpa using f2
          subst this
          simp
      · rw [i3, ← List.map_append, List.map_map]
        apply List.map_congr_left
        intro a _
        simp only [Function.comp, updSt]
        split <;> rfl

def enqueueAll (q : MsgQueue) (ds : List (List Nat)) : MsgQueue := ds.foldl MsgQueue.enqueue q

def content (up low : List MEntry) : List (Nat × List Nat) := (up ++ low).map (fun x => (x.2.st, x.2.data))

theorem enqueueAll_refines : ∀ (ds : List (List Nat)) (q : MsgQueue) (up low : List MEntry), MqInv q up low →
    (∀ d ∈ ds, d.length ≤ 250) → 266 ≤ q.size →
    ∃ up' low' k, MqInv (enqueueAll q ds) up' low' ∧
      content up' low' = (content up low ++ ds.map (fun d => (1, d))).drop k := by
  intro ds
  induction ds with
  | nil => intro q up low h _ _; exact ⟨up, low, 0, h, by simp⟩
  | cons d ds ih =>
    intro q up low h hd hs
    obtain ⟨up1, low1, k1, h1, a1⟩ := mq_enqueue_refines q up low h d (hd d (by simp)) hs
    obtain ⟨up2, low2, k2, h2, a2⟩ := ih (q.enqueue d) up1 low1 h1 (fun x hx => hd x (by simp [hx])) (by rw [enqueue_size]; exact hs)
    have c1 : content up1 low1 = (content up low).drop k1 ++ [(1, d)] := by
      have := congrArg (List.map (fun e : QEntry => (e.st, e.data))) a1
      simp only [MqInv.abs, List.map_map, List.map_append, List.map_drop, List.map_cons, List.map_nil, newEntry] at this
      have hcomp : ((fun e : QEntry => (e.st, e.data)) ∘ Prod.snd) = (fun x : MEntry => (x.2.st, x.2.data)) := rfl
      rw [hcomp] at this
      simpa [content] using this
    refine ⟨up2, low2, (min k1 (content up low).length) + k2, h2, ?_⟩
    show content up2 low2 = _
    rw [a2, c1]
    simp only [List.map_cons]
    rw [← List.drop_drop]
    congr 1
    by_cases hk : k1 ≤ (content up low).length
    · rw [Nat.min_eq_left hk, List.drop_append_of_le_length hk]
      simp
    · have hk' : (content up low).length ≤ k1 := by omega
      rw [Nat.min_eq_right hk', List.drop_of_length_le hk']
      rw [List.drop_append_of_le_length (Nat.le_refl _)]
      simp

end Iec.Queues
