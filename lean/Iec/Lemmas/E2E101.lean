/-
Master and slave over a lossy line (unbalanced mode): the frames the master's connection state machine writes, fed to the
slave's `run` any number of times, and the slave's answer fed back to the master.  A transfer of user data and a poll are
the same exchange (`Sys.exchange`, `exchange_spec`): the master writes a frame (`run_idle_data`, `run_idle_poll`), repeats
only that frame while it waits (`run_wait`), the slave's `run` on the octets is `handleMessage` on the decoded fields
(`secU_run_ok`) and so a request in the sense of `request_spec`, and the master's reception of the answer is
`SlaveConn.handle` on the decoded fields (`connRecv_ok`, `connRecv_short`), which ends the wait (`handle_ends`).
Link establishment (`Sys.establish`) is one such round without loss or repetition: `run_reset`, then the same two receptions.
-/
import Iec.Lemmas.Link101Parse
import Iec.Lemmas.Link101Hist
import Iec.Lemmas.Link101Track
namespace Iec.Link101

theorem setState_lastReceived (s : SecU) (n : Nat) : (s.setState n).1.lastReceived = s.lastReceived := by
  unfold SecU.setState; split <;> rfl

theorem ack_lastReceived (s : SecU) (a b : Bool) : (s.ack a b).1.lastReceived = s.lastReceived := by
  unfold SecU.ack; split <;> rfl

theorem answer_lastReceived (s : SecU) (a : Option (List Nat)) : (s.answer a).1.lastReceived = s.lastReceived := by
  unfold SecU.answer; simp only []; repeat' split
  all_goals rfl

theorem reset_lastReceived (s : SecU) (fc : Nat) (fcb fcv : Bool) : (s.reset fc fcb fcv).1.lastReceived = s.lastReceived := by
  unfold SecU.reset; split
  · exact setState_lastReceived _ _
  · exact ack_lastReceived _ _ _

theorem userData_lastReceived (s : SecU) (bc fcb fcv : Bool) (us : Nat) (ul : Int) :
    (s.userData bc fcb fcv us ul).1.lastReceived = s.lastReceived := ack_lastReceived _ _ _

theorem poll_lastReceived (s : SecU) (cls1 fcb fcv : Bool) : (s.poll cls1 fcb fcv).1.lastReceived = s.lastReceived := by
  unfold SecU.poll
  rw [answer_lastReceived]
  generalize (if fcv = true then checkFCB s.expectedFcb fcb else (true, s.expectedFcb)) = ve
  obtain ⟨valid, e⟩ := ve
  cases valid <;> cases cls1
  case true.false => cases s.c2.head? <;> rfl
  case true.true => cases s.c1.head? <;> rfl
  all_goals rfl

theorem handleMessage_lastReceived (s : SecU) (fc : Nat) (bc fcb fcv : Bool) (us : Nat) (ul : Int) :
    (s.handleMessage fc bc fcb fcv us ul).1.lastReceived = s.lastReceived := by
  unfold SecU.handleMessage
  simp only [apply_ite Prod.fst, apply_ite SecU.lastReceived, setState_lastReceived, reset_lastReceived,
    poll_lastReceived, userData_lastReceived, ite_self]

theorem secU_run_ok (s : SecU) (f b : List Nat) (n now fc : Nat) (bc fcb fcv : Bool) (us : Nat) (ul : Int)
    (hr : readNext s.ll.p.addrLen f s.ll.buf = ([], b, some n))
    (hh : secHeader { s.ll with buf := b } n = .ok fc bc fcb fcv us ul) :
    s.run f now =
      ((({ s with ll := { s.ll with buf := b }, lastReceived := now } : SecU).handleMessage fc bc fcb fcv us ul).1, [],
       (({ s with ll := { s.ll with buf := b }, lastReceived := now } : SecU).handleMessage fc bc fcb fcv us ul).2) := by
  unfold SecU.run
  rw [hr]
  simp only [SecU.parse, hh]
  rw [if_neg (by rw [handleMessage_lastReceived]; simp)]
  simp only [List.append_nil]

theorem secU_run_frame (s : SecU) (fcb : Bool) (d f : List Nat) (now : Nat)
    (ha : AddrOk s.ll.p.addrLen s.ll.address)
    (hv : varFrame s.ll.p.addrLen (ctrl 3 true false fcb true) s.ll.address d = some f) :
    s.run f now =
      ((({ s with lastReceived := now } : SecU).request (.data (f ++ s.ll.buf.drop f.length) (5 + s.ll.p.addrLen) d.length) fcb).1, [],
       (({ s with lastReceived := now } : SecU).request (.data (f ++ s.ll.buf.drop f.length) (5 + s.ll.p.addrLen) d.length) fcb).2) :=
  secU_run_ok s f _ _ now 3 false fcb true _ _ (readNext_varFrame _ _ _ d f _ s.ll.p.hA hv).1
    (secHeader_varFrame { s.ll with buf := f ++ s.ll.buf.drop f.length } 3 fcb true d f _ (by decide) ha hv rfl)

/-- the slave finds the same octets in its port at each of the times `ts` (copies of one frame: the original
and its retransmissions that were not lost) -/
def SecU.runMany (s : SecU) (f : List Nat) : List Nat → SecU × List Obs
  | [] => (s, [])
  | t :: ts =>
    let r := s.run f t
    let r2 := SecU.runMany r.1 f ts
    (r2.1, r.2.2 ++ r2.2)

theorem view_lastReceived (s : SecU) (now : Nat) : ({ s with lastReceived := now } : SecU).view = s.view := rfl

theorem runMany_const (v : View) (f : List Nat) (R : List (List Nat))
    (step : ∀ (s : SecU) (t : Nat), s.view = v →
      (s.run f t).1.view = v ∧ rxOf (s.run f t).2.2 = [] ∧ txB (s.run f t).2.2 = R) :
    ∀ (ts : List Nat) (s : SecU), s.view = v →
    (s.runMany f ts).1.view = v ∧ rxOf (s.runMany f ts).2 = [] ∧
    txB (s.runMany f ts).2 = (List.replicate ts.length R).flatten := by
  intro ts
  induction ts with
  | nil => intro s hs; exact ⟨hs, rfl, rfl⟩
  | cons t ts ih =>
    intro s hs
    obtain ⟨a, b, c⟩ := step s t hs
    obtain ⟨a2, b2, c2⟩ := ih _ a
    unfold SecU.runMany
    simp only [txB_append, rxOf_append, a2, b2, c2, b, c]
    exact ⟨trivial, rfl, by simp [List.replicate_succ]⟩

theorem runMany_first (v' : View) (f : List Nat) (R pl : List (List Nat)) (t : Nat) (ts : List Nat) (s : SecU)
    (first : (s.run f t).1.view = v' ∧ rxOf (s.run f t).2.2 = pl ∧ txB (s.run f t).2.2 = R)
    (rest : ∀ (s : SecU) (t : Nat), s.view = v' →
      (s.run f t).1.view = v' ∧ rxOf (s.run f t).2.2 = [] ∧ txB (s.run f t).2.2 = R) :
    (s.runMany f (t :: ts)).1.view = v' ∧ rxOf (s.runMany f (t :: ts)).2 = pl ∧
    txB (s.runMany f (t :: ts)).2 = (List.replicate (ts.length + 1) R).flatten := by
  obtain ⟨a, b, c⟩ := first
  obtain ⟨a2, b2, c2⟩ := runMany_const v' f R rest ts _ a
  unfold SecU.runMany
  simp only [txB_append, rxOf_append, a2, b2, c2, b, c]
  exact ⟨trivial, by simp, by simp [List.replicate_succ]⟩

theorem run_request_spec (s : SecU) (f : List Nat) (t : Nat) (r : Req) (fcb : Bool) (hq : s.view.QueuesOk)
    (h : s.run f t = ((({ s with lastReceived := t } : SecU).request r fcb).1, [],
      (({ s with lastReceived := t } : SecU).request r fcb).2)) :
    (s.run f t).1.view = (if fcb = s.expectedFcb then s.view.accept r else s.view) ∧
    rxOf (s.run f t).2.2 = (if fcb = s.expectedFcb then r.payload else []) ∧
    txB (s.run f t).2.2 = (s.run f t).1.view.resp r := by
  obtain ⟨a, b, c⟩ := request_spec ({ s with lastReceived := t } : SecU) r fcb hq
  rw [h]
  exact ⟨a, c, b⟩

theorem run_data_spec (v : View) (s : SecU) (hs : s.view = v) (fcb : Bool) (d f : List Nat) (t : Nat)
    (ha : AddrOk v.p.addrLen v.address) (hv : varFrame v.p.addrLen (ctrl 3 true false fcb true) v.address d = some f)
    (hq : v.QueuesOk) (hd : d ≠ []) :
    (s.run f t).1.view = (if fcb = v.expectedFcb then { v with expectedFcb := !v.expectedFcb } else v) ∧
    rxOf (s.run f t).2.2 = (if fcb = v.expectedFcb then [d] else []) ∧
    txB (s.run f t).2.2 = v.resp (.data [] 0 0) := by
  subst hs
  obtain ⟨a, b, c⟩ := run_request_spec s f t _ fcb hq (secU_run_frame s fcb d f t ha hv)
  have hl : (d.length : Int) > 0 := by cases d with | nil => exact absurd rfl hd | cons x xs => simp
  refine ⟨a, ?_, ?_⟩
  · rw [b, Req.payload, if_pos hl, (readNext_varFrame _ _ _ d f s.ll.buf s.ll.p.hA hv).2]; rfl
  · rw [c, a]; split <;> rfl

theorem runMany_once (v : View) (d f : List Nat) (ha : AddrOk v.p.addrLen v.address)
    (hv : varFrame v.p.addrLen (ctrl 3 true false v.expectedFcb true) v.address d = some f) (hq : v.QueuesOk)
    (hd : d ≠ []) (t : Nat) (ts : List Nat) (s : SecU) (hs : s.view = v) :
    (s.runMany f (t :: ts)).1.view = { v with expectedFcb := !v.expectedFcb } ∧ rxOf (s.runMany f (t :: ts)).2 = [d] ∧
    txB (s.runMany f (t :: ts)).2 = (List.replicate (ts.length + 1) (v.resp (.data [] 0 0))).flatten := by
  refine runMany_first _ f _ _ t ts s
    (by have := run_data_spec v s hs v.expectedFcb d f t ha hv hq hd; rwa [if_pos rfl, if_pos rfl] at this) ?_
  intro s' t' hs'
  have := run_data_spec _ s' hs' v.expectedFcb d f t' ha hv hq hd
  rwa [if_neg (bool_ne_not _), if_neg (bool_ne_not _)] at this

def pollFc (cls1 : Bool) : Nat := if cls1 then 10 else 11

theorem secU_run_poll (s : SecU) (cls1 fcb : Bool) (now : Nat) (ha : AddrOk s.ll.p.addrLen s.ll.address) :
    s.run (fixedFrame s.ll.p.addrLen (ctrl (pollFc cls1) true false fcb true) s.ll.address) now =
      ((({ s with lastReceived := now } : SecU).request
          (.poll (fixedFrame s.ll.p.addrLen (ctrl (pollFc cls1) true false fcb true) s.ll.address ++ s.ll.buf.drop (4 + s.ll.p.addrLen)) cls1) fcb).1, [],
       (({ s with lastReceived := now } : SecU).request
          (.poll (fixedFrame s.ll.p.addrLen (ctrl (pollFc cls1) true false fcb true) s.ll.address ++ s.ll.buf.drop (4 + s.ll.p.addrLen)) cls1) fcb).2) := by
  have h := secU_run_ok s _ _ _ now (pollFc cls1) false fcb true 0 0 (readNext_fixedFrame _ _ _ s.ll.buf s.ll.p.hA)
    (secHeader_fixedFrame { s.ll with buf := _ ++ s.ll.buf.drop (4 + s.ll.p.addrLen) } (pollFc cls1) fcb true _
      (by cases cls1 <;> decide) ha rfl _)
  cases cls1 <;> exact h

def pollFrame (v : View) (cls1 fcb : Bool) : List Nat :=
  fixedFrame v.p.addrLen (ctrl (pollFc cls1) true false fcb true) v.address

theorem run_poll_spec (v : View) (s : SecU) (hs : s.view = v) (cls1 fcb : Bool) (t : Nat)
    (ha : AddrOk v.p.addrLen v.address) (hq : v.QueuesOk) :
    (s.run (pollFrame v cls1 fcb) t).1.view = (if fcb = v.expectedFcb then v.accept (.poll [] cls1) else v) ∧
    rxOf (s.run (pollFrame v cls1 fcb) t).2.2 = [] ∧
    txB (s.run (pollFrame v cls1 fcb) t).2.2 = pollBytes (s.run (pollFrame v cls1 fcb) t).1.view := by
  subst hs
  obtain ⟨a, b, c⟩ := run_request_spec s (pollFrame s.view cls1 fcb) t _ fcb hq (secU_run_poll s cls1 fcb t ha)
  -- the result as a variable: unification must not look into `SecU.run`
  generalize s.run (pollFrame s.view cls1 fcb) t = x at a b c ⊢
  exact ⟨a.trans (by cases cls1 <;> rfl), b.trans (by split <;> rfl), c⟩

theorem runMany_poll_once (v : View) (cls1 : Bool) (ha : AddrOk v.p.addrLen v.address) (hq : v.QueuesOk)
    (t : Nat) (ts : List Nat) (s : SecU) (hs : s.view = v) :
    (s.runMany (pollFrame v cls1 v.expectedFcb) (t :: ts)).1.view = v.accept (.poll [] cls1) ∧
    rxOf (s.runMany (pollFrame v cls1 v.expectedFcb) (t :: ts)).2 = [] ∧
    txB (s.runMany (pollFrame v cls1 v.expectedFcb) (t :: ts)).2 =
      (List.replicate (ts.length + 1) (pollBytes (v.accept (.poll [] cls1)))).flatten := by
  obtain ⟨a, b, c⟩ := run_poll_spec v s hs cls1 v.expectedFcb t ha hq
  rw [if_pos rfl] at a
  refine runMany_first _ _ _ _ t ts s ⟨a, b, by rw [c, a]⟩ ?_
  intro s' t' hs'
  obtain ⟨hp, had⟩ := accept_p v (.poll [] cls1)
  have := run_poll_spec _ s' hs' cls1 v.expectedFcb t' (by rw [hp, had]; exact ha) (accept_queuesOk _ _ hq)
  rw [accept_toggles, if_neg (bool_ne_not _), show pollFrame (v.accept (.poll [] cls1)) = pollFrame v by
    unfold pollFrame; rw [hp, had]] at this
  exact ⟨this.1, this.2.1, by rw [this.2.2, this.1]⟩

/-- the fields of the master's connection object that a wait in state 4 must not touch -/
def SlaveConn.core (c : SlaveConn) : Nat × Nat × Bool × List Nat × Nat × Bool × Bool :=
  (c.address, c.pstate, c.hasMsg, c.msg, c.origSend, c.testFn, c.nextFcb)

/-- fields of the connection object relevant to a poll in progress -/
def SlaveConn.pcore (c : SlaveConn) : Nat × Nat × Bool × Nat × Bool × Bool × Nat :=
  (c.address, c.pstate, c.hasMsg, c.origSend, c.testFn, c.nextFcb, c.lastReq)

/-- the fields of the connection object that `Sync` reads -/
def SlaveConn.idleCore (c : SlaveConn) : Nat × Nat × Bool × Bool × Bool :=
  (c.address, c.pstate, c.hasMsg, c.testFn, c.nextFcb)

/-- what the master hands to its application (`UserData` callback) -/
def udOf (o : List Obs) : List (List Nat) :=
  o.filterMap (fun x => match x with | .ud _ d => some d | _ => none)

@[simp] theorem udOf_append (a b : List Obs) : udOf (a ++ b) = udOf a ++ udOf b := by simp [udOf]
@[simp] theorem udOf_nil : udOf [] = [] := rfl

theorem udOf_opt (p : Prop) [Decidable p] (o : Obs) (h : udOf [o] = []) : udOf (if p then [o] else []) = [] := by
  split
  · exact h
  · rfl

theorem run_idle_data (c : SlaveConn) (l : LL) (now : Nat) (h3 : c.pstate = 3) (ht : c.testFn = false) (hm : c.hasMsg = true) :
    c.run l now = ({ c with nextFcb := !c.nextFcb, lastSend := now, origSend := now, waiting := true, pstate := 4 },
      l.sendVar 3 c.address true false c.nextFcb true c.msg) := by
  unfold SlaveConn.run
  simp only [h3, ht, hm, show (3 : Nat) ≠ 7 by decide, show (3 : Nat) ≠ 0 by decide, show (3 : Nat) ≠ 1 by decide,
    show (3 : Nat) ≠ 2 by decide, if_false, if_true, Bool.false_eq_true]

theorem pri_send (c : SlaveConn) (l : LL) (now : Nat) (h3 : c.pstate = 3) (ht : c.testFn = false) (hm : c.hasMsg = true) :
    txB (c.run l now).2.2 = (varFrame l.p.addrLen (ctrl 3 true false c.nextFcb true) c.address c.msg).toList ∧
    (c.run l now).1.core = (c.address, 4, true, c.msg, now, false, !c.nextFcb) ∧ (c.run l now).2.1.p = l.p := by
  rw [run_idle_data c l now h3 ht hm]
  obtain ⟨f1, _, _, f4, _⟩ := sendVar_facts l 3 c.address true false c.nextFcb true c.msg
  exact ⟨f4, by rw [SlaveConn.core, hm, ht], f1⟩

/-- what a time-out retransmits while the connection waits for the answer to a data frame (state 4) or to a
request (state 5): the frame it wrote, under the frame count bit it was written with -/
def SlaveConn.pending (c : SlaveConn) (aL : Nat) : List (List Nat) :=
  if c.pstate = 4 then (varFrame aL (ctrl 3 true false (!c.nextFcb) true) c.address c.msg).toList
  else [fixedFrame aL (ctrl c.lastReq true false (!c.nextFcb) true) c.address]

theorem run_wait (c : SlaveConn) (l : LL) (now : Nat) (h : c.pstate = 4 ∨ c.pstate = 5)
    (hr : ¬ now > c.origSend + l.p.tRepeat) :
    ∃ t l' o, c.run l now = ({ c with lastSend := t }, l', o) ∧ l'.p = l.p ∧
      (txB o = [] ∨ txB o = c.pending l.p.addrLen) := by
  have hps : ∀ n, n < 4 ∨ n = 7 → ¬ c.pstate = n := by omega
  unfold SlaveConn.run SlaveConn.pending
  simp only [if_neg (hps 7 (by omega)), if_neg (hps 0 (by omega)), if_neg (hps 1 (by omega)), if_neg (hps 2 (by omega)),
    if_neg (hps 3 (by omega)), SlaveConn.clock_eq]
  by_cases ha : now > min c.lastSend now + l.p.tAck
  · rcases h with h | h
    · simp only [if_pos h, if_pos ha, if_neg hr]
      exact ⟨now, _, _, rfl, (sendVar_facts ..).1, Or.inr (sendVar_facts ..).2.2.2.1⟩
    · simp only [if_neg (show ¬ c.pstate = 4 by omega), if_pos h, if_pos ha, if_neg hr]
      exact ⟨now, _, _, rfl, rfl, Or.inr rfl⟩
  · refine ⟨min c.lastSend now, l, [], ?_, rfl, Or.inl rfl⟩
    rcases h with h | h
    · simp only [if_pos h, if_neg ha]
    · simp only [if_neg (show ¬ c.pstate = 4 by omega), if_pos h, if_neg ha]

def waitRuns (c : SlaveConn) (l : LL) : List Nat → SlaveConn × LL × List Obs
  | [] => (c, l, [])
  | t :: ts =>
    let r := c.run l t
    let r2 := waitRuns r.1 r.2.1 ts
    (r2.1, r2.2.1, r.2.2 ++ r2.2.2)

theorem waitRuns_wait : ∀ (ws : List Nat) (c : SlaveConn) (l : LL), c.pstate = 4 ∨ c.pstate = 5 →
    (∀ t ∈ ws, ¬ t > c.origSend + l.p.tRepeat) →
    ∃ t l' o, waitRuns c l ws = ({ c with lastSend := t }, l', o) ∧ l'.p = l.p ∧
      ∀ g ∈ txB o, g ∈ c.pending l.p.addrLen := by
  intro ws
  induction ws with
  | nil => intro c l _ _; exact ⟨c.lastSend, l, [], rfl, rfl, fun _ h => nomatch h⟩
  | cons t ws ih =>
    intro c l h hw
    obtain ⟨t1, l1, o1, e1, hp1, ho1⟩ := run_wait c l t h (hw t (by simp))
    obtain ⟨t2, l2, o2, e2, hp2, ho2⟩ := ih { c with lastSend := t1 } l1 h
      (by intro t' ht'; rw [hp1]; exact hw t' (by simp [ht']))
    unfold waitRuns
    rw [e1]
    simp only [e2]
    refine ⟨t2, l2, o1 ++ o2, rfl, hp2.trans hp1, ?_⟩
    intro g hg
    rw [txB_append] at hg
    rcases List.mem_append.mp hg with hg | hg
    · rcases ho1 with e | e <;> rw [e] at hg
      · cases hg
      · exact hg
    · rw [hp1] at ho2; exact ho2 g hg

theorem pri_wait (c : SlaveConn) (l : LL) (now : Nat) (h4 : c.pstate = 4) (hr : ¬ now > c.origSend + l.p.tRepeat) :
    (c.run l now).1.core = c.core ∧ (c.run l now).2.1.p = l.p ∧
    (txB (c.run l now).2.2 = [] ∨
     txB (c.run l now).2.2 = (varFrame l.p.addrLen (ctrl 3 true false (!c.nextFcb) true) c.address c.msg).toList) := by
  obtain ⟨t, l', o, e, hp, ho⟩ := run_wait c l now (Or.inl h4) hr
  rw [SlaveConn.pending, if_pos h4] at ho
  rw [e]
  exact ⟨rfl, hp, ho⟩

/-- the answers without DFC that end a wait.  FC 0 = ACK, 8 = user data, 9 = no data; `lastReq = 2`: the request that was
answered is the link test -/
theorem handle_ends (c : SlaveConn) (l : LL) (now fc : Nat) (acd : Bool) (a : Int) (us : Nat) (ul : Int)
    (h : fc = 0 ∧ (c.pstate = 2 ∨ c.pstate = 4 ∨ c.pstate = 5) ∨ (fc = 8 ∨ fc = 9) ∧ c.pstate = 5) :
    c.handle l now fc acd false a us ul =
      ({ c with state := 3, pstate := 3, waiting := false, dontSend := false,
                hasMsg := if c.pstate = 4 then false else c.hasMsg,
                testFn := if fc = 0 ∧ c.pstate = 5 ∧ c.lastReq = 2 then false else c.testFn,
                req1 := if fc = 8 then false else acd || c.req1, req2 := if fc = 8 then false else c.req2 }, l,
       (if fc = 8 then [Obs.ud a (userDataOf l.buf us ul)] else []) ++ (if c.state ≠ 3 then [.st c.address 3] else []) ++
         if acd then [.ad a] else []) := by
  unfold SlaveConn.handle
  simp only [SlaveConn.setState_eq, Bool.false_eq_true, if_false]
  obtain ⟨ad, st, ps, hm, m, ls, os, r1, r2, ds, w, tf, nf, lr⟩ := c
  rcases h with ⟨rfl, h | h | h⟩ | ⟨rfl | rfl, h⟩ <;> simp only at h <;> subst h
  · cases acd <;> rfl
  · cases acd <;> rfl
  · by_cases hl : lr = 2
    · subst hl; cases acd <;> rfl
    · cases acd <;> simp [hl]
  · cases acd <;> rfl
  · cases acd <;> rfl

theorem handle_ends_idle (c : SlaveConn) (l : LL) (now fc : Nat) (acd : Bool) (a : Int) (us : Nat) (ul : Int)
    (h : fc = 0 ∧ (c.pstate = 2 ∨ c.pstate = 4 ∨ c.pstate = 5) ∨ (fc = 8 ∨ fc = 9) ∧ c.pstate = 5) :
    udOf (c.handle l now fc acd false a us ul).2.2 = (if fc = 8 then [userDataOf l.buf us ul] else []) ∧
    (c.handle l now fc acd false a us ul).1.idleCore =
      (c.address, 3, (if c.pstate = 4 then false else c.hasMsg),
        (if fc = 0 ∧ c.pstate = 5 ∧ c.lastReq = 2 then false else c.testFn), c.nextFcb) ∧
    (c.handle l now fc acd false a us ul).2.1 = l := by
  rw [handle_ends c l now fc acd a us ul h]
  refine ⟨?_, rfl, rfl⟩
  show udOf (_ ++ _ ++ _) = _
  rw [udOf_append, udOf_append, udOf_opt (c.state ≠ 3) _ rfl, udOf_opt (acd = true) _ rfl, apply_ite udOf,
    List.append_nil, List.append_nil]
  rfl

theorem pri_ack (c : SlaveConn) (l : LL) (now : Nat) (acd : Bool) (a : Int) (us : Nat) (ul : Int) (h4 : c.pstate = 4) :
    (c.handle l now 0 acd false a us ul).1.core = (c.address, 3, false, c.msg, c.origSend, c.testFn, c.nextFcb) ∧
    (c.handle l now 0 acd false a us ul).2.1 = l := by
  rw [handle_ends c l now 0 acd a us ul (.inl ⟨rfl, .inr (.inl h4)⟩)]
  refine ⟨?_, rfl⟩
  show (c.address, 3, (if c.pstate = 4 then false else c.hasMsg), c.msg, c.origSend, (if _ then false else c.testFn), c.nextFcb) = _
  rw [if_pos h4, if_neg (by omega)]

/-- `PriU.onMessage` seen from the one connection object -/
def recvMsg (c : SlaveConn) (l : LL) (now n : Nat) : SlaveConn × LL × List Obs :=
  match parseBP l n with
  | none => (c, l, [])
  | some h =>
    if h.single then c.handle l now 0 false false (-1) 0 0
    else if h.c / 64 % 2 = 1 then (c, l, [])
    else if (c.address : Int) = (h.address : Int) then
      c.handle l now (h.c % 16) (h.c / 32 % 2 = 1) (h.c / 16 % 2 = 1) h.address h.udStart h.udLen
    else (c, l, [])

/-- the reception part of `PriU.run` seen from the one connection object -/
def connRecv (c : SlaveConn) (l : LL) (q : List Nat) (now : Nat) : SlaveConn × LL × List Obs :=
  let r := readNext l.p.addrLen q l.buf
  let l := { l with buf := r.2.1 }
  match r.2.2 with
  | none => (c, l, [])
  | some n => recvMsg c l now n

def single (c : SlaveConn) (l : LL) : PriU := { ll := l, slaves := [c], cur := some 0, curIdx := 0, bcast := none }

theorem runSM_single (c : SlaveConn) (l : LL) (now : Nat) :
    (single c l).runSM now = (single (c.run l now).1 (c.run l now).2.1, (c.run l now).2.2) := by
  unfold PriU.runSM single
  simp only [List.isEmpty_cons, Bool.false_eq_true, if_false]
  cases hw : c.waiting <;> simp [hw]

theorem handle_single_hit (c : SlaveConn) (l : LL) (now fc : Nat) (acd dfc : Bool) (address : Int) (us : Nat) (ul : Int)
    (h : address = -1 ∨ (c.address : Int) = address) :
    (single c l).handle now fc acd dfc address us ul =
      (single (c.handle l now fc acd dfc address us ul).1 (c.handle l now fc acd dfc address us ul).2.1,
       (c.handle l now fc acd dfc address us ul).2.2) := by
  unfold PriU.handle PriU.findIdx single
  rcases h with h | h
  · subst h
    simp
  · by_cases hm : address = -1
    · subst hm; simp
    · simp [hm, h, List.findIdx?_cons]

theorem handle_single_miss (c : SlaveConn) (l : LL) (now fc : Nat) (acd dfc : Bool) (address : Int) (us : Nat) (ul : Int)
    (h1 : address ≠ -1) (h2 : (c.address : Int) ≠ address) :
    (single c l).handle now fc acd dfc address us ul = (single c l, []) := by
  unfold PriU.handle PriU.findIdx single
  simp [h1, h2, List.findIdx?_cons]

/-- `LinkLayerPrimaryUnbalanced_run` with one slave is `connRecv`, then the state machine of the connection: the two functions
the exchanges below are stated on -/
theorem priU_run_single (c : SlaveConn) (l : LL) (q : List Nat) (now : Nat) :
    (single c l).run q now =
      (single ((connRecv c l q now).1.run (connRecv c l q now).2.1 now).1 ((connRecv c l q now).1.run (connRecv c l q now).2.1 now).2.1,
       (readNext l.p.addrLen q l.buf).1,
       (connRecv c l q now).2.2 ++ ((connRecv c l q now).1.run (connRecv c l q now).2.1 now).2.2) := by
  have key : ∀ (l' : LL) (n : Nat), (single c l').onMessage now n =
      (single (recvMsg c l' now n).1 (recvMsg c l' now n).2.1, (recvMsg c l' now n).2.2) := by
    intro l' n
    unfold PriU.onMessage recvMsg
    have hll : (single c l').ll = l' := rfl
    rw [hll]
    cases hp : parseBP l' n with
    | none => rfl
    | some h =>
      simp only
      by_cases hs : h.single = true
      · simp only [hs, if_true]
        exact handle_single_hit c l' now 0 false false (-1) 0 0 (Or.inl rfl)
      · simp only [hs, if_false, Bool.false_eq_true]
        by_cases hprm : h.c / 64 % 2 = 1
        · simp only [hprm, if_true]
        · simp only [hprm, if_false]
          by_cases had : (c.address : Int) = (h.address : Int)
          · simp only [had, if_true]
            exact handle_single_hit c l' now _ _ _ _ _ _ (Or.inr had)
          · simp only [had, if_false]
            exact handle_single_miss c l' now _ _ _ _ _ _ (by omega) had
  unfold PriU.run connRecv
  have hl : (single c l).ll = l := rfl
  rw [hl]
  generalize readNext l.p.addrLen q l.buf = r
  obtain ⟨q', buf, m⟩ := r
  simp only
  have hs : ({ (single c l) with ll := { l with buf := buf } } : PriU) = single c { l with buf := buf } := rfl
  rw [hs]
  cases m with
  | none => simp only [runSM_single]
  | some n => simp only [key, runSM_single]

theorem connRecv_single (c : SlaveConn) (l : LL) (now : Nat) :
    connRecv c l singleChar now = c.handle { l with buf := writeAt l.buf 0 [0xe5] } now 0 false false (-1) 0 0 := by
  unfold connRecv singleChar
  simp only [readNext]
  unfold recvMsg parseBP
  have : g (writeAt l.buf 0 [0xe5]) 0 = 0xe5 := by unfold writeAt g; simp
  simp [this]

theorem connRecv_ok (c : SlaveConn) (l : LL) (q q' b : List Nat) (n now fc : Nat) (acd dfc : Bool) (us : Nat) (ul : Int)
    (hfc : fc < 16) (hr : readNext l.p.addrLen q l.buf = (q', b, some n))
    (hp : parseBP { l with buf := b } n = some ⟨false, ctrl fc false false acd dfc, c.address, us, ul⟩) :
    connRecv c l q now = c.handle { l with buf := b } now fc acd dfc c.address us ul := by
  obtain ⟨cd1, cd2, cd3, cd4⟩ := ctrl_decode fc false false acd dfc hfc
  unfold connRecv
  rw [hr]
  simp only
  unfold recvMsg
  rw [hp]
  simp only [Bool.false_eq_true, if_false, of_decide_eq_false cd2, if_true, cd1, cd3, cd4]

/-- the two forms of a short answer: the single character, which the master takes for FC 0, or a fixed frame -/
theorem connRecv_short (c : SlaveConn) (l : LL) (A : List Nat) (now fc : Nat) (acd : Bool) (hfc : fc < 16)
    (ha : AddrOk l.p.addrLen c.address)
    (hA : A = singleChar ∨ A = fixedFrame l.p.addrLen (ctrl fc false false acd false) c.address) :
    ∃ l' fc' acd' a, l'.p = l.p ∧ (fc' = fc ∨ fc' = 0) ∧ connRecv c l A now = c.handle l' now fc' acd' false a 0 0 := by
  rcases hA with rfl | rfl
  · exact ⟨{ l with buf := writeAt l.buf 0 [0xe5] }, 0, false, -1, rfl, Or.inr rfl, connRecv_single c l now⟩
  · exact ⟨{ l with buf := fixedFrame l.p.addrLen (ctrl fc false false acd false) c.address ++ l.buf.drop (4 + l.p.addrLen) },
      fc, acd, c.address, rfl, Or.inl rfl,
      connRecv_ok c l _ _ _ _ now fc acd false 0 0 hfc (readNext_fixedFrame _ _ _ _ l.p.hA)
        (parseBP_fixedFrame { l with buf := _ ++ l.buf.drop (4 + l.p.addrLen) } _ _ _ ha rfl _)⟩

theorem mem_ite_singleton {α : Type} {c : Prop} [Decidable c] {a b x : α} (h : x ∈ if c then [a] else [b]) : x = a ∨ x = b := by
  split at h
  · exact Or.inl (List.mem_singleton.mp h)
  · exact Or.inr (List.mem_singleton.mp h)

theorem connRecv_ack (c : SlaveConn) (l : LL) (v : View) (acd singleOk : Bool) (A : List Nat) (now : Nat)
    (hadr : c.address = v.address) (hw : l.p.addrLen = v.p.addrLen) (ha : AddrOk v.p.addrLen v.address)
    (hA : A ∈ ackBytes v acd singleOk) :
    ∃ l' acd' a, l'.p = l.p ∧ connRecv c l A now = c.handle l' now 0 acd' false a 0 0 := by
  obtain ⟨l', fc', acd', a, hp, hfc, e⟩ := connRecv_short c l A now 0 acd (by decide) (by rw [hw, hadr]; exact ha)
    (by rw [hw, hadr]; exact mem_ite_singleton hA)
  have : fc' = 0 := by omega
  subst this
  exact ⟨l', acd', a, hp, e⟩

theorem ack_response (c : SlaveConn) (l : LL) (v : View) (acd singleOk : Bool) (A : List Nat) (now : Nat) (h4 : c.pstate = 4)
    (hadr : c.address = v.address) (hw : l.p.addrLen = v.p.addrLen) (ha : AddrOk v.p.addrLen v.address)
    (hA : A ∈ ackBytes v acd singleOk) :
    (connRecv c l A now).1.core = (c.address, 3, false, c.msg, c.origSend, c.testFn, c.nextFcb) ∧
    (connRecv c l A now).2.1.p = l.p := by
  obtain ⟨l', acd', a, hp, e⟩ := connRecv_ack c l v acd singleOk A now hadr hw ha hA
  obtain ⟨p1, p2⟩ := pri_ack c l' now acd' a 0 0 h4
  rw [e, p1, p2]
  exact ⟨rfl, hp⟩

/-- the master's connection object for the slave, the master's link layer, the slave -/
structure Sys where
  c : SlaveConn
  lm : LL
  s : SecU

/-- one transfer: the application hands `d` to the idle connection; the master's state machine runs at `t0`
(writes the frame) and then at the times `waits` (each run may retransmit); copies of the frame reach the slave at
the times `t :: ts` (at least one gets through, any number of duplicates); at `tAck` one of the slave's
(identical) acknowledgements reaches the master -/
structure Transfer where
  d : List Nat
  t0 : Nat
  waits : List Nat
  t : Nat
  ts : List Nat
  tAck : Nat

/-- returns the new system, what the slave did, and the octet strings the master wrote -/
def Sys.transfer (y : Sys) (k : Transfer) : Sys × List Obs × List (List Nat) :=
  let c1 := { y.c with msg := k.d, hasMsg := true }
  let r := c1.run y.lm k.t0
  let f := (txB r.2.2).headD []
  let w := waitRuns r.1 r.2.1 k.waits
  let rs := y.s.runMany f (k.t :: k.ts)
  let A := (txB rs.2).headD []
  let h := connRecv w.1 w.2.1 A k.tAck
  ({ c := h.1, lm := h.2.1, s := rs.1 }, rs.2, txB r.2.2 ++ txB w.2.2)

def Sys.transfers (y : Sys) : List Transfer → Sys × List Obs × List (List Nat)
  | [] => (y, [], [])
  | k :: ks =>
    let r := y.transfer k
    let r2 := Sys.transfers r.1 ks
    (r2.1, r.2.1 ++ r2.2.1, r.2.2 ++ r2.2.2)

structure Sync (y : Sys) : Prop where
  idle : y.c.pstate = 3
  noTest : y.c.testFn = false
  noMsg : y.c.hasMsg = false
  bit : y.s.expectedFcb = y.c.nextFcb
  addr : y.c.address = y.s.ll.address
  width : y.lm.p.addrLen = y.s.ll.p.addrLen
  addrOk : AddrOk y.s.ll.p.addrLen y.s.ll.address
  queues : y.s.view.QueuesOk

/-- the data fits a frame and the waits stay short of the repeat time-out (the link is not declared failed) -/
def Transfer.Ok (k : Transfer) (y : Sys) : Prop :=
  k.d ≠ [] ∧ 1 + y.lm.p.addrLen + k.d.length ≤ 255 ∧ ∀ t ∈ k.waits, ¬ t > k.t0 + y.lm.p.tRepeat

/-- what `Sys.transfer` and `Sys.poll` have in common, from the connection object `c1` the application's request
went into: the result of the master's reception, the result of the slave's runs, the octet strings the master wrote -/
def Sys.exchange (y : Sys) (c1 : SlaveConn) (t0 : Nat) (waits : List Nat) (t : Nat) (ts : List Nat) (tR : Nat) :
    (SlaveConn × LL × List Obs) × (SecU × List Obs) × List (List Nat) :=
  let r := c1.run y.lm t0
  let w := waitRuns r.1 r.2.1 waits
  let rs := y.s.runMany ((txB r.2.2).headD []) (t :: ts)
  (connRecv w.1 w.2.1 ((txB rs.2).headD []) tR, rs, txB r.2.2 ++ txB w.2.2)

/-- `r`: the master's first run, which writes `f` and leaves it pending; `R`: the slave's answer to every copy of `f`.  The
master's reception of `R` finds the connection object as the first run left it, up to `lastSend`. -/
theorem exchange_spec (y : Sys) (c1 : SlaveConn) (t0 : Nat) (waits : List Nat) (t : Nat) (ts : List Nat) (tR : Nat)
    (r : SlaveConn × LL × List Obs) (f R : List Nat) (hr : c1.run y.lm t0 = r) (hs : txB r.2.2 = [f]) (hp : r.2.1.p = y.lm.p)
    (h45 : r.1.pstate = 4 ∨ r.1.pstate = 5) (hpend : r.1.pending y.lm.p.addrLen = [f]) (ho : r.1.origSend = t0)
    (hw : ∀ t ∈ waits, ¬ t > t0 + y.lm.p.tRepeat) (rs : SecU × List Obs) (hrs : y.s.runMany f (t :: ts) = rs)
    (hR : txB rs.2 = (List.replicate (ts.length + 1) [R]).flatten) :
    ∃ tw lw w, lw.p = y.lm.p ∧ y.exchange c1 t0 waits t ts tR = (connRecv { r.1 with lastSend := tw } lw R tR, rs, w) ∧
      (∀ g ∈ w, g = f) ∧ f ∈ w := by
  obtain ⟨tw, lw, ow, ew, hpw, how⟩ := waitRuns_wait waits r.1 r.2.1 h45 (by intro t' ht'; rw [ho, hp]; exact hw t' ht')
  rw [hp, hpend] at how
  have hA : (txB rs.2).headD [] = R := by rw [hR]; rfl
  refine ⟨tw, lw, [f] ++ txB ow, hpw.trans hp, ?_, ?_, by simp⟩
  · unfold Sys.exchange
    simp only [hr, hs, List.headD_cons, hrs, hA, ew]
  · intro g hg
    rcases List.mem_append.mp hg with hg | hg
    · exact List.mem_singleton.mp hg
    · exact List.mem_singleton.mp (how g hg)

theorem transfer_eq (y : Sys) (k : Transfer) (e : (SlaveConn × LL × List Obs) × (SecU × List Obs) × List (List Nat))
    (he : y.exchange { y.c with msg := k.d, hasMsg := true } k.t0 k.waits k.t k.ts k.tAck = e) :
    y.transfer k = (⟨e.1.1, e.1.2.1, e.2.1.1⟩, e.2.1.2, e.2.2) := by
  subst he; simp only [Sys.transfer, Sys.exchange]

theorem idleCore_of_core {c : SlaveConn} {a ps : Nat} {hm : Bool} {m : List Nat} {os : Nat} {tf nf : Bool}
    (h : c.core = (a, ps, hm, m, os, tf, nf)) : c.idleCore = (a, ps, hm, tf, nf) := by
  simp only [SlaveConn.core, Prod.mk.injEq] at h
  obtain ⟨rfl, rfl, rfl, _, _, rfl, rfl⟩ := h
  rfl

theorem Sync.after {y : Sys} {c' : SlaveConn} {l' : LL} {s' : SecU} (addr : y.c.address = y.s.ll.address)
    (width : y.lm.p.addrLen = y.s.ll.p.addrLen) (addrOk : AddrOk y.s.ll.p.addrLen y.s.ll.address)
    (hc : c'.idleCore = (y.c.address, 3, false, false, s'.view.expectedFcb)) (hl : l'.p = y.lm.p)
    (hp : s'.view.p = y.s.view.p) (ha : s'.view.address = y.s.view.address) (hq : s'.view.QueuesOk) : Sync ⟨c', l', s'⟩ := by
  simp only [SlaveConn.idleCore, Prod.mk.injEq] at hc
  obtain ⟨c1, c2, c3, c4, c5⟩ := hc
  have hp' : s'.ll.p = y.s.ll.p := hp
  have ha' : s'.ll.address = y.s.ll.address := ha
  exact ⟨c2, c4, c3, c5.symm, by rw [c1, ha']; exact addr, by rw [hl, hp']; exact width, by rw [hp', ha']; exact addrOk, hq⟩

theorem varFrame_isSome {aL c a : Nat} {d : List Nat} (h : 1 + aL + d.length ≤ 255) : ∃ f, varFrame aL c a d = some f := by
  unfold varFrame
  rw [if_neg (by omega)]
  exact ⟨_, rfl⟩

theorem transfer_spec (y : Sys) (k : Transfer) (hy : Sync y) (hk : k.Ok y) :
    Sync (y.transfer k).1 ∧ rxOf (y.transfer k).2.1 = [k.d] ∧ (y.transfer k).1.lm.p = y.lm.p ∧
    ∃ f, varFrame y.lm.p.addrLen (ctrl 3 true false y.c.nextFcb true) y.c.address k.d = some f ∧
      (∀ g ∈ (y.transfer k).2.2, g = f) ∧ f ∈ (y.transfer k).2.2 := by
  obtain ⟨hd, hlen, hw⟩ := hk
  obtain ⟨f, hf⟩ := varFrame_isSome (c := ctrl 3 true false y.c.nextFcb true) (a := y.c.address) hlen
  have hr := run_idle_data { y.c with msg := k.d, hasMsg := true } y.lm k.t0 hy.idle hy.noTest rfl
  obtain ⟨p3, _, _, p1, _⟩ := sendVar_facts y.lm 3 y.c.address true false y.c.nextFcb true k.d
  rw [show varFrame _ _ _ _ = some f from hf] at p1
  have hvs : varFrame y.s.view.p.addrLen (ctrl 3 true false y.s.view.expectedFcb true) y.s.view.address k.d = some f := by
    show varFrame y.s.ll.p.addrLen (ctrl 3 true false y.s.expectedFcb true) y.s.ll.address k.d = some f
    rw [← hy.width, hy.bit, ← hy.addr]; exact hf
  obtain ⟨s1, s2, s3⟩ := runMany_once y.s.view k.d f hy.addrOk hvs hy.queues hd k.t k.ts y.s rfl
  -- the slave's runs as a variable: unification must not look into `SecU.run`
  obtain ⟨rs, hrs⟩ : ∃ rs, y.s.runMany f (k.t :: k.ts) = rs := ⟨_, rfl⟩
  rw [hrs] at s1 s2 s3
  obtain ⟨A, hA⟩ : ∃ A, ackBytes y.s.view (!y.s.view.c1.isEmpty) (!(!y.s.view.c1.isEmpty)) = [A] := by
    unfold ackBytes; split <;> exact ⟨_, rfl⟩
  have hA' : y.s.view.resp (.data [] 0 0) = [A] := hA
  obtain ⟨tw, lw, w, hpw, ex, e3, e4⟩ := exchange_spec y _ k.t0 k.waits k.t k.ts k.tAck _ f A hr p1 p3 (Or.inl rfl)
    (by rw [SlaveConn.pending, if_pos rfl]
        show (varFrame _ (ctrl 3 true false (!!y.c.nextFcb) true) y.c.address k.d).toList = [f]
        rw [Bool.not_not, hf]; rfl) rfl hw rs hrs (by rw [s3, hA'])
  obtain ⟨a1, a2⟩ := ack_response
    { y.c with msg := k.d, hasMsg := true, nextFcb := !y.c.nextFcb, lastSend := tw, origSend := k.t0, waiting := true, pstate := 4 }
    lw y.s.view _ _ A k.tAck rfl hy.addr (by rw [hpw]; exact hy.width) hy.addrOk (by rw [hA]; simp)
  rw [transfer_eq y k _ ex]
  refine ⟨Sync.after hy.addr hy.width hy.addrOk ?_ (a2.trans hpw) (by rw [s1]) (by rw [s1]) (by rw [s1]; exact hy.queues),
    s2, a2.trans hpw, f, hf, e3, e4⟩
  rw [s1, idleCore_of_core a1]
  show (y.c.address, 3, false, y.c.testFn, !y.c.nextFcb) = (_, _, _, _, !y.s.expectedFcb)
  rw [hy.noTest, hy.bit]

theorem transfers_spec : ∀ (ks : List Transfer) (y : Sys), Sync y →
    (∀ k ∈ ks, k.d ≠ [] ∧ 1 + y.lm.p.addrLen + k.d.length ≤ 255 ∧ ∀ t ∈ k.waits, ¬ t > k.t0 + y.lm.p.tRepeat) →
    Sync (y.transfers ks).1 ∧ rxOf (y.transfers ks).2.1 = ks.map (·.d) := by
  intro ks
  induction ks with
  | nil => intro y hy _; exact ⟨hy, rfl⟩
  | cons k ks ih =>
    intro y hy hks
    obtain ⟨a, b, hp, _⟩ := transfer_spec y k hy (hks k (by simp))
    obtain ⟨a2, b2⟩ := ih (y.transfer k).1 a (by intro k' hk'; rw [hp]; exact hks k' (by simp [hk']))
    unfold Sys.transfers
    simp only [rxOf_append]
    exact ⟨a2, by rw [b, b2]; rfl⟩

theorem run_idle_poll (c : SlaveConn) (l : LL) (now : Nat) (h3 : c.pstate = 3) (ht : c.testFn = false) (hm : c.hasMsg = false)
    (hr : c.req1 = true ∨ c.req2 = true) :
    c.run l now = ({ c with req1 := false, req2 := c.req1 && c.req2, lastReq := pollFc c.req1, nextFcb := !c.nextFcb,
                            lastSend := now, origSend := now, waiting := true, pstate := 5 },
      l.sendFixed (pollFc c.req1) c.address true false c.nextFcb true) := by
  unfold SlaveConn.run
  simp only [h3, ht, hm, hr, show (3 : Nat) ≠ 7 by decide, show (3 : Nat) ≠ 0 by decide, show (3 : Nat) ≠ 1 by decide,
    show (3 : Nat) ≠ 2 by decide, if_false, if_true, Bool.false_eq_true]
  obtain ⟨ad, st, ps, hm, m, ls, os, r1, r2, ds, w, tf, nf, lr⟩ := c
  cases r1
  · cases hr.resolve_left nofun; rfl
  · rfl

theorem pri_poll_send (c : SlaveConn) (l : LL) (now : Nat) (h3 : c.pstate = 3) (ht : c.testFn = false) (hm : c.hasMsg = false)
    (hr : c.req1 = true ∨ c.req2 = true) :
    txB (c.run l now).2.2 = [fixedFrame l.p.addrLen (ctrl (pollFc c.req1) true false c.nextFcb true) c.address] ∧
    (c.run l now).1.pcore = (c.address, 5, false, now, false, !c.nextFcb, pollFc c.req1) ∧ (c.run l now).2.1.p = l.p := by
  rw [run_idle_poll c l now h3 ht hm hr]
  exact ⟨rfl, by rw [SlaveConn.pcore, hm, ht], rfl⟩

theorem setState_obs (c : SlaveConn) (n : Nat) : udOf (c.setState n).2 = [] ∧ (c.setState n).1.idleCore = c.idleCore ∧
    (c.setState n).1.lastReq = c.lastReq := by
  unfold SlaveConn.setState; split <;> exact ⟨rfl, rfl, rfl⟩

theorem poll_response (c : SlaveConn) (l : LL) (v : View) (R : List Nat) (now : Nat) (h5 : c.pstate = 5) (ht : c.testFn = false)
    (hadr : c.address = v.address) (hw : l.p.addrLen = v.p.addrLen) (ha : AddrOk v.p.addrLen v.address)
    (hR : R ∈ pollBytes v) :
    udOf (connRecv c l R now).2.2 = (if v.userData.length > 0 then [v.userData] else []) ∧
    (connRecv c l R now).1.idleCore = (c.address, 3, c.hasMsg, false, c.nextFcb) ∧ (connRecv c l R now).2.1.p = l.p := by
  unfold pollBytes at hR
  simp only at hR
  have ha' : AddrOk l.p.addrLen c.address := by rw [hw, hadr]; exact ha
  have h4 : ¬ c.pstate = 4 := by omega
  by_cases hu : v.userData.length > 0
  · rw [if_pos hu] at hR ⊢
    cases hvf : varFrame v.p.addrLen (ctrl 8 false false (!v.c1.isEmpty) false) v.address v.userData with
    | none => rw [hvf] at hR; cases hR
    | some f =>
      rw [hvf] at hR
      obtain rfl : R = f := List.mem_singleton.mp hR
      rw [← hw, ← hadr] at hvf
      obtain ⟨r1, r2⟩ := readNext_varFrame l.p.addrLen _ c.address v.userData R l.buf l.p.hA hvf
      obtain ⟨p1, p2, p3⟩ := handle_ends_idle c { l with buf := R ++ l.buf.drop R.length } now 8 (!v.c1.isEmpty) c.address
        (5 + l.p.addrLen) v.userData.length (.inr ⟨.inl rfl, h5⟩)
      rw [connRecv_ok c l R _ _ _ now 8 _ false _ _ (by decide) r1
        (parseBP_varFrame { l with buf := R ++ l.buf.drop R.length } _ _ _ R _ ha' hvf rfl), p1, p2, p3, if_neg h4, ht]
      exact ⟨congrArg (fun x => [x]) r2, by rw [ite_self], rfl⟩
  · rw [if_neg hu] at hR ⊢
    obtain ⟨l', fc', acd', a, hp, hfc, e⟩ := connRecv_short c l R now 9 (!v.c1.isEmpty) (by decide) ha'
      (by rw [hw, hadr]; exact mem_ite_singleton hR)
    obtain ⟨p1, p2, p3⟩ := handle_ends_idle c l' now fc' acd' a 0 0
      (hfc.elim (fun e => .inr ⟨.inr e, h5⟩) fun e => .inl ⟨e, .inr (.inr h5)⟩)
    rw [e, p1, p2, p3, if_neg (show ¬ fc' = 8 by omega), if_neg h4, ht, ite_self]
    exact ⟨rfl, rfl, hp⟩

/-- one poll: the application asks for class `cls1` data; the master's state machine runs at `t0` (writes the request)
and at the times `waits` (may retransmit it); copies of the request reach the slave at `t :: ts`; at `tR` one of the
slave's responses reaches the master -/
structure Poll where
  cls1 : Bool
  t0 : Nat
  waits : List Nat
  t : Nat
  ts : List Nat
  tR : Nat

/-- returns the new system, what the master's link layer reported to its application, the octet strings the master
wrote, and the class that was actually requested (class 1 takes precedence when an access demand is pending) -/
def Sys.poll (y : Sys) (k : Poll) : Sys × List Obs × List (List Nat) × Bool :=
  let c1 := if k.cls1 then { y.c with req1 := true } else { y.c with req2 := true }
  let r := c1.run y.lm k.t0
  let f := (txB r.2.2).headD []
  let w := waitRuns r.1 r.2.1 k.waits
  let rs := y.s.runMany f (k.t :: k.ts)
  let R := (txB rs.2).headD []
  let h := connRecv w.1 w.2.1 R k.tR
  ({ c := h.1, lm := h.2.1, s := rs.1 }, h.2.2, txB r.2.2 ++ txB w.2.2, c1.req1)

theorem poll_eq (y : Sys) (k : Poll) (e : (SlaveConn × LL × List Obs) × (SecU × List Obs) × List (List Nat))
    (he : y.exchange (if k.cls1 then { y.c with req1 := true } else { y.c with req2 := true }) k.t0 k.waits k.t k.ts k.tR = e) :
    y.poll k = (⟨e.1.1, e.1.2.1, e.2.1.1⟩, e.1.2.2, e.2.2,
      (if k.cls1 then { y.c with req1 := true } else { y.c with req2 := true } : SlaveConn).req1) := by
  subst he; simp only [Sys.poll, Sys.exchange]

def View.QueuesFit (v : View) : Prop :=
  (∀ d ∈ v.c1, 1 + v.p.addrLen + d.length ≤ 255) ∧ (∀ d ∈ v.c2, 1 + v.p.addrLen + d.length ≤ 255)

def View.queue (v : View) (cls : Bool) : List (List Nat) := if cls then v.c1 else v.c2

theorem accept_poll_queue (v : View) (c cls : Bool) :
    (v.accept (.poll [] c)).queue cls = (if c = cls then (v.queue cls).tail else v.queue cls) ∧
    (v.accept (.poll [] c)).userData = (v.queue c).head?.getD [] := by
  cases c <;> cases cls <;> exact ⟨rfl, rfl⟩

theorem accept_queuesFit (v : View) (r : Req) (h : v.QueuesFit) : (v.accept r).QueuesFit := by
  obtain ⟨h1, h2⟩ := h
  cases r with
  | data => exact ⟨h1, h2⟩
  | poll b c =>
    cases c
    · exact ⟨h1, fun d hd => h2 d (List.mem_of_mem_tail hd)⟩
    · exact ⟨fun d hd => h1 d (List.mem_of_mem_tail hd), h2⟩

theorem pollBytes_one (v : View) (cls1 : Bool) (hf : v.QueuesFit) :
    ∃ R, pollBytes (v.accept (.poll [] cls1)) = [R] := by
  have hfit : 1 + (v.accept (.poll [] cls1)).p.addrLen + (v.accept (.poll [] cls1)).userData.length ≤ 255 := by
    rw [(accept_p v _).1, (accept_poll_queue v cls1 cls1).2]
    cases hc : v.queue cls1 with
    | nil => have := v.p.hA; simp; omega
    | cons d r => exact (show ∀ d ∈ v.queue cls1, 1 + v.p.addrLen + d.length ≤ 255 by cases cls1; exact hf.2; exact hf.1) d (by rw [hc]; simp)
  unfold pollBytes
  simp only
  split
  · obtain ⟨f, hf⟩ := varFrame_isSome (c := ctrl 8 false false (!(v.accept (.poll [] cls1)).c1.isEmpty) false)
      (a := (v.accept (.poll [] cls1)).address) hfit
    exact ⟨f, by rw [hf]; rfl⟩
  · split <;> exact ⟨_, rfl⟩

theorem poll_spec (y : Sys) (k : Poll) (hy : Sync y) (hf : y.s.view.QueuesFit)
    (hk : ∀ t ∈ k.waits, ¬ t > k.t0 + y.lm.p.tRepeat) :
    Sync (y.poll k).1 ∧ (y.poll k).1.s.view = y.s.view.accept (.poll [] (k.cls1 || y.c.req1)) ∧
    (y.poll k).1.lm.p = y.lm.p ∧ (y.poll k).2.2.2 = (k.cls1 || y.c.req1) ∧
    udOf (y.poll k).2.1 =
      (if (y.s.view.accept (.poll [] (k.cls1 || y.c.req1))).userData.length > 0
        then [(y.s.view.accept (.poll [] (k.cls1 || y.c.req1))).userData] else []) ∧
    (∀ g ∈ (y.poll k).2.2.1, g = pollFrame y.s.view (k.cls1 || y.c.req1) y.s.expectedFcb) := by
  obtain ⟨c1, hc1⟩ : ∃ c1, c1 = (if k.cls1 then { y.c with req1 := true } else { y.c with req2 := true } : SlaveConn) := ⟨_, rfl⟩
  have hc : c1.req1 = (k.cls1 || y.c.req1) ∧ (c1.req1 = true ∨ c1.req2 = true) ∧ c1.pstate = 3 ∧ c1.testFn = false ∧
      c1.hasMsg = false ∧ c1.nextFcb = y.c.nextFcb ∧ c1.address = y.c.address := by
    rw [hc1]; cases k.cls1 <;> exact ⟨by simp, by simp, hy.idle, hy.noTest, hy.noMsg, rfl, rfl⟩
  obtain ⟨hreq, hany, g1, g2, g3, g4, g5⟩ := hc
  generalize (k.cls1 || y.c.req1) = cls at hreq ⊢
  have hframe : fixedFrame y.lm.p.addrLen (ctrl (pollFc cls) true false c1.nextFcb true) c1.address
      = pollFrame y.s.view cls y.s.view.expectedFcb := by
    show _ = fixedFrame y.s.ll.p.addrLen (ctrl (pollFc cls) true false y.s.expectedFcb true) y.s.ll.address
    rw [g4, g5, hy.width, hy.addr, hy.bit]
  obtain ⟨r, hr⟩ : ∃ r, c1.run y.lm k.t0 = r := ⟨_, rfl⟩
  have hr' := hr.symm.trans (run_idle_poll c1 y.lm k.t0 g1 g2 g3 hany)
  rw [hreq] at hr'
  obtain ⟨s1, s2, s3⟩ := runMany_poll_once y.s.view cls hy.addrOk hy.queues k.t k.ts y.s rfl
  obtain ⟨rs, hrs⟩ : ∃ rs, y.s.runMany (pollFrame y.s.view cls y.s.view.expectedFcb) (k.t :: k.ts) = rs := ⟨_, rfl⟩
  rw [hrs] at s1 s2 s3
  obtain ⟨R, hR⟩ := pollBytes_one y.s.view cls hf
  obtain ⟨tw, lw, w, hpw, ex, e3, _⟩ := exchange_spec y c1 k.t0 k.waits k.t k.ts k.tR r _ R hr
    (by rw [hr']; exact congrArg (fun x => [x]) hframe) (by rw [hr']; rfl) (by rw [hr']; exact Or.inr rfl)
    (by rw [hr', SlaveConn.pending, if_neg (show ¬ (5 : Nat) = 4 by decide), ← hframe]
        show [fixedFrame _ (ctrl _ true false (!!_) true) _] = _
        rw [Bool.not_not]) (by rw [hr']) hk rs hrs (by rw [s3, hR])
  obtain ⟨hpa1, hpa2⟩ := accept_p y.s.view (.poll [] cls)
  obtain ⟨r1, r2, r3⟩ := poll_response { r.1 with lastSend := tw } lw (y.s.view.accept (.poll [] cls)) R k.tR (by rw [hr'])
    (by rw [hr']; exact g2) (by rw [hr', hpa2]; exact g5.trans hy.addr) (by rw [hpw, hpa1]; exact hy.width)
    (by rw [hpa1, hpa2]; exact hy.addrOk) (by rw [hR]; simp)
  subst hc1
  rw [poll_eq y k _ ex]
  refine ⟨Sync.after hy.addr hy.width hy.addrOk ?_ (r3.trans hpw) (by rw [s1, hpa1]) (by rw [s1, hpa2])
    (by rw [s1]; exact accept_queuesOk _ _ hy.queues), s1, r3.trans hpw, hreq, r1, e3⟩
  rw [s1, r2, accept_toggles, hr']
  show (_, 3, _, false, !_) = (_, _, _, _, !y.s.expectedFcb)
  rw [g3, g4, g5, hy.bit]

def Sys.polls (y : Sys) : List Poll → Sys × List Obs × List Bool
  | [] => (y, [], [])
  | k :: ks =>
    let r := y.poll k
    let r2 := Sys.polls r.1 ks
    (r2.1, r.2.1 ++ r2.2.1, r.2.2.2 :: r2.2.2)

/-- the specification of the slave's queues under a sequence of polls; the classes are those actually requested -/
def View.serve (v : View) : List Bool → View × List (Bool × List Nat)
  | [] => (v, [])
  | c :: cs =>
    let v1 := v.accept (.poll [] c)
    let r := View.serve v1 cs
    (r.1, (if v1.userData.length > 0 then [(c, v1.userData)] else []) ++ r.2)

theorem polls_spec : ∀ (ks : List Poll) (y : Sys), Sync y → y.s.view.QueuesFit →
    (∀ k ∈ ks, ∀ t ∈ k.waits, ¬ t > k.t0 + y.lm.p.tRepeat) →
    Sync (y.polls ks).1 ∧ (y.polls ks).1.s.view = (y.s.view.serve (y.polls ks).2.2).1 ∧
    udOf (y.polls ks).2.1 = ((y.s.view.serve (y.polls ks).2.2).2.map (·.2)) := by
  intro ks
  induction ks with
  | nil => intro y hy _ _; exact ⟨hy, rfl, rfl⟩
  | cons k ks ih =>
    intro y hy hf hks
    obtain ⟨a1, a2, a3, a4, a5, _⟩ := poll_spec y k hy hf (hks k (by simp))
    obtain ⟨b1, b2, b3⟩ := ih (y.poll k).1 a1 (by rw [a2]; exact accept_queuesFit _ _ hf)
      (by intro k' hk' t ht; rw [a3]; exact hks k' (by simp [hk']) t ht)
    unfold Sys.polls
    simp only [udOf_append]
    rw [a4]
    unfold View.serve
    simp only
    rw [← a2, ← a4]
    refine ⟨b1, b2, ?_⟩
    rw [b3, a5, a4, a2]
    split <;> simp

theorem serve_fifo (cls : Bool) : ∀ (cs : List Bool) (v : View), v.QueuesOk →
    ((v.serve cs).2.filter (fun x => x.1 == cls)).map (·.2) = (if cls then v.c1 else v.c2).take (cs.count cls) := by
  intro cs
  induction cs with
  | nil => intro v _; simp [View.serve]
  | cons c cs ih =>
    intro v hq
    obtain ⟨hqu, hud⟩ := accept_poll_queue v c cls
    have hne : ∀ d ∈ v.queue c, d ≠ [] := by cases c; exact hq.2; exact hq.1
    unfold View.serve
    simp only [List.filter_append, List.map_append]
    rw [ih _ (accept_queuesOk _ _ hq)]
    show _ ++ ((v.accept (.poll [] c)).queue cls).take _ = (v.queue cls).take _
    rw [hqu, hud]
    by_cases hc : c = cls
    · subst hc
      rw [if_pos rfl, List.count_cons_self]
      cases hv : v.queue c with
      | nil => simp
      | cons d r => simp [length_pos_of_ne_nil (hne d (by rw [hv]; simp))]
    · rw [if_neg hc, List.count_cons_of_ne hc]
      split <;> simp [hc]

def resetFrame (v : View) : List Nat := fixedFrame v.p.addrLen (ctrl 0 true false false false) v.address

theorem secU_run_reset (s : SecU) (now : Nat) (ha : AddrOk s.ll.p.addrLen s.ll.address) :
    (s.run (resetFrame s.view) now).1.view = { s.view with expectedFcb := true } ∧
    txB (s.run (resetFrame s.view) now).2.2 = ackBytes s.view false true ∧ rxOf (s.run (resetFrame s.view) now).2.2 = [] := by
  rw [show resetFrame s.view = fixedFrame s.ll.p.addrLen (ctrl 0 true false false false) s.ll.address from rfl,
    secU_run_ok s _ _ _ now 0 false false false 0 0 (readNext_fixedFrame _ _ _ s.ll.buf s.ll.p.hA)
      (secHeader_fixedFrame { s.ll with buf := _ ++ s.ll.buf.drop (4 + s.ll.p.addrLen) } 0 false false _ (by decide) ha rfl _)]
  generalize ht : ({ s with ll := { s.ll with buf := _ }, lastReceived := now } : SecU) = t
  have hv : t.view = s.view := by rw [← ht]; rfl
  have hm : t.handleMessage 0 false false false 0 0 =
      ((({ (t.setState 3).1 with expectedFcb := true } : SecU).ack false true).1,
        (t.setState 3).2 ++ ((({ (t.setState 3).1 with expectedFcb := true } : SecU).ack false true).2 ++ [.resetCU false])) := by
    unfold SecU.handleMessage SecU.reset
    simp
  obtain ⟨v1, v2, v3, _⟩ := setState_view t 3
  obtain ⟨a, b, c⟩ := ack_facts ({ (t.setState 3).1 with expectedFcb := true } : SecU) false true
  have hu : ({ (t.setState 3).1 with expectedFcb := true } : SecU).view = { s.view with expectedFcb := true } := by
    show { (t.setState 3).1.view with expectedFcb := true } = _
    rw [v1, hv]
  rw [hm]
  simp only [txB_append, rxOf_append, v2, v3, a, b, c, hu]
  exact ⟨trivial, by simp [txB, ackBytes], rfl⟩

/-- state 1 with `waiting = false`: the status of link was answered -/
theorem run_reset (c : SlaveConn) (l : LL) (now : Nat) (h1 : c.pstate = 1) (hw : c.waiting = false) :
    c.run l now = ({ c with lastSend := now, waiting := true, nextFcb := true, pstate := 2 },
      l.sendFixed 0 c.address true false false false) := by
  unfold SlaveConn.run
  simp only [h1, hw, show (1 : Nat) ≠ 7 by decide, show (1 : Nat) ≠ 0 by decide, if_false, if_true, Bool.false_eq_true]

/-- the master is about to reset the link of this slave; nothing is assumed about the two frame count bits -/
structure PreSync (y : Sys) : Prop where
  st : y.c.pstate = 1
  notWaiting : y.c.waiting = false
  noTest : y.c.testFn = false
  noMsg : y.c.hasMsg = false
  addr : y.c.address = y.s.ll.address
  width : y.lm.p.addrLen = y.s.ll.p.addrLen
  addrOk : AddrOk y.s.ll.p.addrLen y.s.ll.address
  queues : y.s.view.QueuesOk

/-- link establishment: the master's state machine runs (writes RESET REMOTE LINK), the frame reaches the slave, the
slave's acknowledgement reaches the master -/
def Sys.establish (y : Sys) (t0 tS tA : Nat) : Sys × List (List Nat) :=
  let r := y.c.run y.lm t0
  let f := (txB r.2.2).headD []
  let rs := y.s.run f tS
  let A := (txB rs.2.2).headD []
  let h := connRecv r.1 r.2.1 A tA
  ({ c := h.1, lm := h.2.1, s := rs.1 }, txB r.2.2)

/-- the state `Sync` from which `transfers_spec` and `polls_spec` start is what the reset procedure establishes, whatever the
two frame count bits were before -/
theorem establish_spec (y : Sys) (t0 tS tA : Nat) (hy : PreSync y) :
    Sync (y.establish t0 tS tA).1 ∧ (y.establish t0 tS tA).1.c.nextFcb = true ∧ (y.establish t0 tS tA).1.s.expectedFcb = true ∧
    (y.establish t0 tS tA).1.s.c1 = y.s.c1 ∧ (y.establish t0 tS tA).1.s.c2 = y.s.c2 := by
  have hframe : fixedFrame y.lm.p.addrLen (ctrl 0 true false false false) y.c.address = resetFrame y.s.view := by
    show _ = fixedFrame y.s.ll.p.addrLen _ y.s.ll.address
    rw [hy.width, hy.addr]
  obtain ⟨s1, s2, s3⟩ := secU_run_reset y.s tS hy.addrOk
  obtain ⟨A, hA⟩ : ∃ A, ackBytes y.s.view false true = [A] := by unfold ackBytes; split <;> exact ⟨_, rfl⟩
  obtain ⟨l', acd', a, hp, e⟩ := connRecv_ack { y.c with lastSend := t0, waiting := true, nextFcb := true, pstate := 2 }
    (y.lm.sendFixed 0 y.c.address true false false false).1 y.s.view false true A tA hy.addr hy.width hy.addrOk (by rw [hA]; simp)
  -- the slave's new state as a variable: unification must not look into `SecU.run`
  obtain ⟨s', hs'⟩ : ∃ s', (y.s.run (resetFrame y.s.view) tS).1 = s' := ⟨_, rfl⟩
  have ht : y.establish t0 tS tA =
      (⟨{ y.c with lastSend := t0, nextFcb := true, state := 3, pstate := 3, waiting := false, dontSend := false, req1 := acd' || y.c.req1 },
        l', s'⟩, [resetFrame y.s.view]) := by
    unfold Sys.establish
    simp only [run_reset y.c y.lm t0 hy.st hy.notWaiting, show txB (y.lm.sendFixed 0 y.c.address true false false false).2 =
      [resetFrame y.s.view] from congrArg (fun x => [x]) hframe, List.headD_cons, s2, hA, e, hs']
    rw [handle_ends]
    · rfl
    · exact .inl ⟨rfl, .inl rfl⟩
  rw [hs'] at s1
  rw [ht]
  refine ⟨Sync.after hy.addr hy.width hy.addrOk ?_ hp (by rw [s1]) (by rw [s1]) (by rw [s1]; exact hy.queues),
    rfl, congrArg View.expectedFcb s1, congrArg View.c1 s1, congrArg View.c2 s1⟩
  rw [s1]
  show (y.c.address, 3, y.c.hasMsg, y.c.testFn, true) = _
  rw [hy.noMsg, hy.noTest]
end Iec.Link101
