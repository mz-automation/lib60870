/-
The k-window of every connection over every history of the server model (C04): the number of outstanding I-format APDUs
never exceeds k, and on every running connection the k-buffer holds exactly the consecutive acknowledgement numbers that
end at V(S) (`WinInv`, the hypothesis of `C04.checkSeq_spec`).  Only four steps touch (V(S), k-buffer): the atoms `sendI`
(made only where `isSentBufferFull` is false), release of a prefix by `checkSeqConn` and time stamp of the oldest entry,
and the admission of a connection, which makes a fresh record.
-/
import Iec.Lemmas.Srv104Hist
import Iec.Lemmas.KWindow
namespace Iec.Srv104
open Iec.KWindow Iec.Queues

/-- `WinInv` only while the connection runs: after a failed write the k-buffer has an entry that repeats V(S)
(`Conn.unsent`) -/
def Good (k : Nat) (c : Conn) : Prop :=
  c.win.length ≤ k ∧ (c.isRunning = true → ∃ base, WinInv c.vs c.win base c.win.length)

/-- `isFull` in `Atom.sendI` reads the `maxSent` of the record, so the window is bounded by k only where that is k -/
def CW (k : Nat) (c c' : Conn) : Prop :=
  c'.maxSent = c.maxSent ∧ (c'.isUsed = true → c.isUsed = true) ∧ (c.maxSent = k → Good k c → Good k c')

theorem CW.refl (k : Nat) (c : Conn) : CW k c c := ⟨rfl, id, fun _ h => h⟩
theorem CW.trans {k : Nat} {a b c : Conn} (h1 : CW k a b) (h2 : CW k b c) : CW k a c :=
  ⟨h2.1.trans h1.1, fun h => h1.2.1 (h2.2.1 h), fun hm hg => h2.2.2 (h1.1.trans hm) (h1.2.2 hm hg)⟩

theorem CW.of_same {k : Nat} {c c' : Conn} (hm : c'.maxSent = c.maxSent) (hu : c'.isUsed = c.isUsed) (hw : c'.win = c.win)
    (hv : c'.vs = c.vs) (hr : c'.isRunning = true → c.isRunning = true) : CW k c c' :=
  ⟨hm, fun h => hu ▸ h, fun _ hg => ⟨hw ▸ hg.1, fun h => by rw [hw, hv]; exact hg.2 (hr h)⟩⟩

/-- `k < 32767`: `WinInv` is stated for fewer than 32767 outstanding APDUs -/
theorem good_push_ok {k : Nat} (hk0 : 0 < k) (hk : k < 32767) (c : Conn) (hnf : isFull k c.win = false) (t : Nat) (q : Option (Nat × Nat))
    (u : Nat) (b : Bool) (h : Good k c) :
    Good k { c with vs := (c.vs + 1) % 32768, unconf := u, t2Triggered := b,
                    win := c.win ++ [{ seq := (c.vs + 1) % 32768, sentTime := t, qref := q }] } := by
  have hlen : (c.win ++ [({ seq := (c.vs + 1) % 32768, sentTime := t, qref := q } : KEntry)]).length ≤ k := by
    simp only [isFull, Bool.and_eq_false_iff, bne_eq_false_iff_eq, beq_eq_false_iff_ne] at hnf
    have := h.1
    simp only [List.length_append, List.length_cons, List.length_nil]
    rcases hnf with h' | h' <;> omega
  refine ⟨hlen, fun hr => ?_⟩
  obtain ⟨base, hb⟩ := h.2 hr
  refine ⟨base, ?_⟩
  have := winInv_push c.vs c.win base c.win.length hb (by simp only [List.length_append, List.length_cons, List.length_nil] at hlen; omega)
    { seq := (c.vs + 1) % 32768, sentTime := t, qref := q } rfl
  simpa only [List.length_append, List.length_cons, List.length_nil] using this

theorem good_push_fail {k : Nat} (hk0 : 0 < k) (c : Conn) (hnf : isFull k c.win = false) (e : KEntry) (u : Nat) (h : Good k c) :
    Good k { c with isRunning := false, unconf := u, win := c.win ++ [e] } := by
  refine ⟨?_, fun hr => Bool.noConfusion hr⟩
  simp only [isFull, Bool.and_eq_false_iff, bne_eq_false_iff_eq, beq_eq_false_iff_ne] at hnf
  have := h.1
  simp only [List.length_append, List.length_cons, List.length_nil]
  rcases hnf with h' | h' <;> omega

theorem good_suffix {k : Nat} (c : Conn) (d : Nat) (hd : d ≤ c.win.length) (h : Good k c) : Good k { c with win := c.win.drop d } := by
  refine ⟨by have := h.1; simp only [List.length_drop]; omega, fun hr => ?_⟩
  obtain ⟨base, hb⟩ := h.2 hr
  refine ⟨(base + d) % 32768, ?_⟩
  have := winInv_drop c.vs c.win base c.win.length d hb hd
  simpa only [List.length_drop] using this

theorem good_head {k : Nat} (c : Conn) (e e' : KEntry) (rest : List KEntry) (hw : c.win = e :: rest) (hs : e'.seq = e.seq)
    (h : Good k c) : Good k { c with win := e' :: rest } := by
  obtain ⟨h1, h2⟩ := h
  rw [hw] at h1 h2
  refine ⟨h1, fun hr => ?_⟩
  obtain ⟨base, hb, hl, hm, hv⟩ := h2 hr
  exact ⟨base, hb, hl, by simpa only [List.map_cons, hs, List.length_cons] using hm, hv⟩

theorem cw_frame {k : Nat} (hk0 : 0 < k) (hk : k < 32767) (K : Caps) (i : Nat) : Frame K i fun _ => CW k where
  refl _ := CW.refl k
  trans _ _ _ _ := CW.trans
  upd := fun {c _} u => by
    cases u with
    | released d hd => exact ⟨rfl, id, fun _ hg => good_suffix c d hd hg⟩
    | stamped e rest hw t => exact ⟨rfl, id, fun _ hg => good_head c e _ rest hw rfl hg⟩
    | stop => exact .of_same rfl rfl rfl rfl (fun h => Bool.noConfusion h)
    | _ => exact .of_same rfl rfl rfl rfl id
  sendI c now q _ hf _ :=
    ⟨⟨rfl, id, fun hm hg => good_push_fail hk0 c (hm ▸ hf) _ _ hg⟩,
     ⟨rfl, id, fun hm hg => good_push_ok hk0 hk c (hm ▸ hf) now q _ _ hg⟩⟩
  deact _ _ := .of_same rfl rfl rfl rfl id
  actv _ := ⟨fun _ _ => .of_same rfl rfl rfl rfl id, fun _ => .of_same rfl rfl rfl rfl id⟩
  count _ _ := .of_same rfl rfl rfl rfl id

/-- the second part speaks of every record with the configured k, in use or not, so that `CW` need not ask whether a
slot is in use -/
def WInv (s : Slave) : Prop :=
  ∀ j, ((s.conn j).isUsed = true → (s.conn j).maxSent = s.p.k) ∧ ((s.conn j).maxSent = s.p.k → Good s.p.k (s.conn j))

theorem winv_keep {s s' : Slave} (h : WInv s) (hs : PerConn (fun _ => CW s.p.k) s s') : WInv s' := by
  intro j
  obtain ⟨hm, hu, hg⟩ := hs.conn j
  rw [hs.p]
  exact ⟨fun hu' => hm.trans ((h j).1 (hu hu')), fun hm' => hg (hm ▸ hm') ((h j).2 (hm ▸ hm'))⟩

theorem good_fresh (k : Nat) (c : Conn) (hw : c.win = []) (hv : c.vs = 0) : Good k c := by
  refine ⟨by rw [hw]; exact Nat.zero_le _, fun _ => ⟨0, ?_⟩⟩
  rw [hw, hv]
  exact ⟨by decide, by decide, rfl, rfl⟩

theorem cw_freed (k : Nat) (c : Conn) (st : Nat) : CW k c { c with isUsed := false, state := st } :=
  ⟨rfl, fun h => Bool.noConfusion h, fun _ hg => hg⟩

theorem winv_apply {p : Params} (hk0 : 0 < p.k) (hk : p.k < 32767) (s : Slave) (op : WOp) (h : s.p = p ∧ WInv s) :
    (op.apply s).p = p ∧ WInv (op.apply s) := by
  have keep : ∀ {t u : Slave}, (t.p = p ∧ WInv t) → PerConn (fun _ => CW p.k) t u → u.p = p ∧ WInv u :=
    fun ht hs => ⟨hs.p.trans ht.1, winv_keep ht.2 (ht.1 ▸ hs)⟩
  cases op with
  | tick =>
    refine tick_inv (P := fun t => t.p = p ∧ WInv t) (fun i t u _ ht a => keep ht (a.perConn (cw_frame hk0 hk _ i)))
      (fun t j _ ht => ?_) (fun t pd aa ht => ?_) (fun t i sk g hi _ ht => ?_) s h
    · exact keep ht (.reap (fun _ => CW.refl _) t j (cw_freed _ _ _))
    · exact keep ht (.of_conns (fun _ => CW.refl _) rfl rfl)
    · have hp := openSlot_p t i sk g hi
      refine ⟨hp.trans ht.1, fun j => ?_⟩
      rw [openSlot_conn t i sk g hi j, hp]
      split
      · exact ⟨fun _ => rfl, fun _ => good_fresh _ _ rfl rfl⟩
      · exact ht.2 j
  | enqueue a => exact keep h (.of_conns (fun _ => CW.refl _) rfl rfl)
  | restart => exact keep h (.restart (fun _ => CW.refl _) s fun _ c => cw_freed _ c 0)
  | env e => exact keep h (.env e s fun _ _ _ => .of_same rfl rfl rfl rfl id)

theorem run_winv (p : Params) (gs : List (String × List (Bool × List Nat))) (hk0 : 0 < p.k) (hk : p.k < 32767) (ops : List WOp) :
    WInv (ops.foldl WOp.apply (create p gs)) ∧ (ops.foldl WOp.apply (create p gs)).p = p :=
  (run_inv (P := fun t => t.p = p ∧ WInv t)
    ⟨rfl, fun j => by rw [create_conn]; exact ⟨fun hu => Bool.noConfusion hu, fun _ => good_fresh _ _ rfl rfl⟩⟩
    (winv_apply hk0 hk) ops).symm

end Iec.Srv104
