import Iec.Model.KWindow
/-
Lemmas about the k-window model: the acceptance test of checkSequenceNumber is the
modular window test, the release loop drops exactly the acknowledged prefix.
-/
namespace Iec.KWindow

/-- sequence numbers of `n` consecutive frames, the first being frame number `j` after `base` -/
def seqsFrom (base j : Nat) : Nat → List Nat
  | 0 => []
  | n + 1 => (base + 1 + j) % 32768 :: seqsFrom base (j + 1) n

theorem seqsFrom_eq (base : Nat) : ∀ n j, seqsFrom base j n = (List.range' j n).map fun i => (base + 1 + i) % 32768
  | 0, _ => rfl
  | n + 1, j => by rw [seqsFrom, seqsFrom_eq base n, List.range'_succ, List.map_cons]

theorem seqsFrom_length (base j n : Nat) : (seqsFrom base j n).length = n := by
  rw [seqsFrom_eq, List.length_map, List.length_range']

theorem seqsFrom_drop (base j n d : Nat) : (seqsFrom base j n).drop d = seqsFrom base (j + d) (n - d) := by
  rw [seqsFrom_eq, seqsFrom_eq, ← List.map_drop, List.drop_range', Nat.mul_one]

theorem seqsFrom_succ (base j n : Nat) : seqsFrom base j (n + 1) = seqsFrom base j n ++ [(base + 1 + j + n) % 32768] := by
  rw [Nat.add_assoc (base + 1), seqsFrom_eq, seqsFrom_eq, ← List.range'_append (m := n) (n := 1), List.map_append, Nat.one_mul]
  rfl

theorem seqsFrom_shift (base d n : Nat) : seqsFrom base d n = seqsFrom ((base + d) % 32768) 0 n := by
  rw [seqsFrom_eq, seqsFrom_eq, ← Nat.add_zero d, ← List.map_add_range' 0 n 1, List.map_map, Nat.add_zero]
  apply List.map_congr_left
  intro i _
  simp only [Function.comp]
  omega

theorem seqsFrom_getLast (base j n : Nat) (d : Nat) :
    ((seqsFrom base j (n + 1)).getLast?.getD d) = (base + 1 + j + n) % 32768 := by
  rw [seqsFrom_succ, List.getLast?_concat]; rfl

/-- the k-buffer holds `len` consecutive acknowledgement numbers ending at V(S); `base` is the one before the first, the
last number the peer has acknowledged -/
def WinInv (vs : Nat) (win : List KEntry) (base len : Nat) : Prop :=
  base < 32768 ∧ len < 32767 ∧ win.map (·.seq) = seqsFrom base 0 len ∧ vs = (base + len) % 32768

def dist (base nr : Nat) : Nat := (nr + 32768 - base) % 32768

theorem WinInv.base_eq {vs : Nat} {win : List KEntry} {base len : Nat} (h : WinInv vs win base len) :
    base = (vs + 32768 - len) % 32768 := by
  obtain ⟨h1, h2, _, h4⟩ := h
  omega

theorem WinInv.ends {vs : Nat} {o : KEntry} {rest : List KEntry} {base n : Nat} (h : WinInv vs (o :: rest) base (n + 1)) :
    o.seq = (base + 1) % 32768 ∧ ((o :: rest).getLast?.getD o).seq = (base + 1 + n) % 32768 := by
  have hw := h.2.2.1
  refine ⟨by simpa [seqsFrom] using congrArg List.head? hw, ?_⟩
  have h1 := seqsFrom_getLast base 0 n o.seq
  rw [← hw, List.getLast?_map] at h1
  cases hg : (o :: rest).getLast? with
  | none => simp at hg
  | some e => simp [hg] at h1 ⊢; omega

theorem dist_eq_zero {base nr : Nat} (hb : base < 32768) (hnr : nr < 32768) : dist base nr = 0 ↔ nr = base := by
  unfold dist; omega

theorem add_dist {base nr : Nat} (hb : base < 32768) (hnr : nr < 32768) : (base + dist base nr) % 32768 = nr := by
  unfold dist; omega

theorem dist_le_succ {base nr : Nat} (k : Nat) (hb : base < 32768) (hnr : nr < 32768) :
    dist base nr ≤ k + 1 ↔ dist ((base + 1) % 32768) nr ≤ k ∨ base = nr := by
  unfold dist; omega

theorem add_mod_inj {a i j : Nat} (hi : i < 32768) (hj : j < 32768) (h : (a + i) % 32768 = (a + j) % 32768) : i = j := by
  omega

/-- `h`: the numbers after `a` up to the `len`-th do not pass 32767 → 0 -/
theorem add_mod_le {a i j len : Nat} (h : (a + 1) % 32768 ≤ (a + len) % 32768) (hl : len < 32768)
    (hi : 1 ≤ i) (hij : i ≤ j) (hj : j ≤ len) : (a + i) % 32768 ≤ (a + j) % 32768 := by
  omega

/-- the range test of `checkSequenceNumber` (both branches) on the `k + 1` numbers from `a` on -/
theorem inRange_iff {a k x : Nat} (ha : a < 32768) (hk : k < 32768) (hx : x < 32768) :
    (if a ≤ (a + k) % 32768 then decide (a ≤ x) && decide (x ≤ (a + k) % 32768)
      else decide (x ≥ a) || decide (x ≤ (a + k) % 32768)) = true ↔ dist a x ≤ k := by
  unfold dist
  split <;> simp only [Bool.or_eq_true, Bool.and_eq_true, decide_eq_true_eq, ge_iff_le] <;> omega

/-- the C code's `oldestValidSeqNo`: the predecessor of the oldest entry's number -/
theorem oldestValid_eq {vs : Nat} {o : KEntry} {rest : List KEntry} {base n : Nat} (h : WinInv vs (o :: rest) base (n + 1)) :
    oldestValid (o :: rest) = base := by
  have hb := h.1
  simp only [oldestValid, h.ends.1]
  split <;> omega

theorem valid_iff (vs : Nat) (win : List KEntry) (base len : Nat) (h : WinInv vs win base len) (nr : Nat)
    (hnr : nr < 32768) : valid vs win nr = true ↔ dist base nr ≤ len := by
  obtain ⟨hb, hl, hw, hv⟩ := h
  cases len with
  | zero =>
    have : win = [] := by simpa [seqsFrom] using hw
    subst this
    simp only [valid, beq_iff_eq, hv, Nat.le_zero, dist_eq_zero hb hnr, Nat.add_zero, Nat.mod_eq_of_lt hb]
  | succ n =>
    match win, hw with
    | o :: rest, hw =>
      have hn : n < 32768 := by omega
      have h : WinInv vs (o :: rest) base (n + 1) := ⟨hb, hl, hw, hv⟩
      have hov := oldestValid_eq h
      obtain ⟨ho, hlast⟩ := h.ends
      rw [← Nat.mod_add_mod] at hlast
      simp only [oldestValid] at hov
      simp only [valid, hlast, hov, Bool.or_eq_true, beq_iff_eq]
      rw [ho, inRange_iff (Nat.mod_lt _ (by decide)) hn hnr, dist_le_succ n hb hnr]

theorem loop_suffix (base len d : Nat) (ovf : Bool) (ov : Nat) (hl : len < 32768) (hdl : d ≤ len)
    (hov : (base + d) % 32768 ≠ ov) (hovf : ovf = false → (base + 1) % 32768 ≤ (base + len) % 32768) :
    ∀ (n j : Nat) (w : List KEntry), w.map (·.seq) = seqsFrom base j n → j + n = len → j < d →
      releaseLoop ovf ov ((base + d) % 32768) w = (w.drop (d - j), w.take (d - j)) := by
  intro n
  induction n with
  | zero => intro j w hw hj hjd; omega
  | succ n ih =>
    intro j w hw hj hjd
    match w, hw with
    | e :: rest, hw =>
      have hdj : d - j = (d - (j + 1)) + 1 := by omega
      have ih := ih (j + 1) rest (List.cons.inj hw).2 (by omega)
      have he : e.seq = (base + (1 + j)) % 32768 := Nat.add_assoc .. ▸ (List.cons.inj hw).1
      unfold releaseLoop
      have c1 : ¬ ((!ovf && decide ((base + d) % 32768 < e.seq)) = true) := by
        cases ovf with
        | true => simp
        | false =>
          simpa [he] using add_mod_le (hovf rfl) hl (Nat.le_add_right 1 j) (by omega : 1 + j ≤ d) hdl
      rw [if_neg c1, if_neg (by simpa using hov), hdj, he]
      by_cases c3 : 1 + j = d
      · rw [if_pos (by simp [c3]), (by omega : d - (j + 1) = 0)]
        rfl
      · have : (base + (1 + j)) % 32768 ≠ (base + d) % 32768 :=
          fun h => c3 (add_mod_inj (by omega) (by omega) h)
        rw [if_neg (by simpa using this), ih (by omega)]
        rfl

theorem release_spec (vs : Nat) (win : List KEntry) (base len : Nat) (h : WinInv vs win base len) (nr : Nat)
    (hnr : nr < 32768) (hd : dist base nr ≤ len) :
    releaseLoop (overflowDetected win) (oldestValid win) nr win
      = (win.drop (dist base nr), win.take (dist base nr)) := by
  obtain ⟨hb, hl, hw, hv⟩ := h
  match win, hw with
  | [], hw => simp [releaseLoop]
  | o :: rest, hw =>
    cases len with
    | zero => simp [seqsFrom] at hw
    | succ n =>
      have h : WinInv vs (o :: rest) base (n + 1) := ⟨hb, hl, hw, hv⟩
      rw [oldestValid_eq h]
      obtain ⟨ho, hlast⟩ := h.ends
      by_cases hd0 : nr = base
      · rw [(dist_eq_zero hb hnr).mpr hd0]
        unfold releaseLoop
        by_cases c1 : (!overflowDetected (o :: rest) && decide (nr < o.seq)) = true
        · rw [if_pos c1]; rfl
        · rw [if_neg c1, if_pos (by simpa using hd0)]; rfl
      · have hovf : overflowDetected (o :: rest) = false → (base + 1) % 32768 ≤ (base + (n + 1)) % 32768 := by
          intro hf
          rw [Nat.add_right_comm, Nat.add_assoc] at hlast
          simpa only [overflowDetected, hlast, ho, decide_eq_false_iff_not, Nat.not_lt] using hf
        have := loop_suffix base (n + 1) (dist base nr) _ base (Nat.lt_succ_of_lt hl) hd (by rwa [add_dist hb hnr]) hovf
          (n + 1) 0 (o :: rest) hw (Nat.zero_add _)
          (Nat.pos_of_ne_zero fun h0 => hd0 ((dist_eq_zero hb hnr).mp h0))
        rwa [add_dist hb hnr, Nat.sub_zero] at this

theorem winInv_drop (vs : Nat) (win : List KEntry) (base len d : Nat) (h : WinInv vs win base len) (hd : d ≤ len) :
    WinInv vs (win.drop d) ((base + d) % 32768) (len - d) := by
  obtain ⟨hb, hl, hw, hv⟩ := h
  refine ⟨Nat.mod_lt _ (by omega), by omega, ?_, by omega⟩
  rw [List.map_drop, hw, seqsFrom_drop, Nat.zero_add, seqsFrom_shift]

theorem winInv_push (vs : Nat) (win : List KEntry) (base len : Nat) (h : WinInv vs win base len)
    (hl : len + 1 < 32767) (e : KEntry) (he : e.seq = (vs + 1) % 32768) :
    WinInv ((vs + 1) % 32768) (win ++ [e]) base (len + 1) := by
  obtain ⟨hb, _, hw, hv⟩ := h
  refine ⟨hb, hl, ?_, by omega⟩
  rw [List.map_append, hw, seqsFrom_succ, List.map_cons, List.map_nil, he, hv]
  congr 2; omega

theorem releaseLoop_suffix (ovf : Bool) (ov nr : Nat) : ∀ win : List KEntry,
    ∃ d, d ≤ win.length ∧ (releaseLoop ovf ov nr win).1 = win.drop d := by
  intro win
  induction win with
  | nil => exact ⟨0, Nat.le_refl _, rfl⟩
  | cons e rest ih =>
    unfold releaseLoop
    split
    · exact ⟨0, Nat.zero_le _, rfl⟩
    · split
      · exact ⟨0, Nat.zero_le _, rfl⟩
      · split
        · exact ⟨1, Nat.succ_le_succ (Nat.zero_le _), rfl⟩
        · obtain ⟨d, hd, he⟩ := ih
          exact ⟨d + 1, Nat.succ_le_succ hd, he⟩

theorem checkSeq_suffix (vs : Nat) (win : List KEntry) (nr : Nat) :
    ∃ d, d ≤ win.length ∧ (checkSeq vs win nr).2.1 = win.drop d := by
  unfold checkSeq
  split
  · exact releaseLoop_suffix _ _ _ _
  · exact ⟨0, Nat.zero_le _, rfl⟩

theorem length_succ_le_of_not_full {k : Nat} {win : List KEntry} (hk : 0 < k) (hle : win.length ≤ k)
    (hnf : isFull k win = false) : win.length + 1 ≤ k := by
  simp only [isFull, Bool.and_eq_false_iff, bne_eq_false_iff_eq, beq_eq_false_iff_ne] at hnf
  rcases hnf with h | h <;> omega

end Iec.KWindow
