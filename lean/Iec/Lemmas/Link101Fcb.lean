/-
The frame count bit of the unbalanced primary (the CS101 master's link layer towards one slave) over every history (C15):
among the frames written for one slave connection, the first frame with FCV = 1 after a RESET REMOTE LINK carries FCB = 1,
every further one either toggles the bit or is octet for octet the frame before it (a retransmission).
Ghost state `last`: the last FCV frame written since the last reset frame.
-/
import Iec.Lemmas.Link101Track
namespace Iec.Link101

/-- the connection state agrees with the ghost.  `pstate` 2 = PLL_EXECUTE_RESET_REMOTE_LINK, 3 = PLL_LINK_LAYERS_AVAILABLE,
4 = PLL_EXECUTE_SERVICE_SEND_CONFIRM, 5 = PLL_EXECUTE_SERVICE_REQUEST_RESPOND.  In the two waiting states 4 and 5 the frame a
time-out writes again is the ghost; `nextFcb` was toggled when that frame was written, hence `!c.nextFcb`.  Without a ghost,
`nextFcb` in the states 2 and 3 is the `true` set when RESET REMOTE LINK was written. -/
structure J (aL : Nat) (c : SlaveConn) (last : Option (List Nat)) : Prop where
  lastReq : c.lastReq < 16
  msgOk : c.hasMsg = true → Framable aL c.msg
  ps4 : c.pstate = 4 → c.hasMsg = true
  ghost : match last with
    | none => c.pstate ≠ 4 ∧ c.pstate ≠ 5 ∧ ((c.pstate = 2 ∨ c.pstate = 3) → c.nextFcb = true)
    | some g => fcvOf g = true ∧ fcbOf g = !c.nextFcb ∧
        (c.pstate = 4 → varFrame aL (ctrl 3 true false (!c.nextFcb) true) c.address c.msg = some g) ∧
        (c.pstate = 5 → g = fixedFrame aL (ctrl c.lastReq true false (!c.nextFcb) true) c.address)

theorem J.expects {aL : Nat} {c : SlaveConn} {last : Option (List Nat)} (h : J aL c last) (h3 : c.pstate = 3) :
    Expects last c.nextFcb := by
  have hg := h.ghost
  cases last with
  | none => exact hg.2.2 (Or.inr h3)
  | some g => exact hg.2.1

/-- `c0` is `c` up to fields the discipline does not depend on -/
structure Sim (c c0 : SlaveConn) : Prop where
  lastReq : c0.lastReq = c.lastReq
  msg : c0.msg = c.msg
  nextFcb : c0.nextFcb = c.nextFcb
  address : c0.address = c.address
  hasMsg : c0.hasMsg = true → c.hasMsg = true
  pstate : c0.pstate = c.pstate

theorem Sim.refl (c : SlaveConn) : Sim c c := ⟨rfl, rfl, rfl, rfl, id, rfl⟩

/-- stated as one equation, so that `rfl` proves it of a state written out -/
theorem Sim.of_eq {c c' : SlaveConn} (h : (c'.lastReq, c'.msg, c'.nextFcb, c'.address, c'.hasMsg, c'.pstate) =
    (c.lastReq, c.msg, c.nextFcb, c.address, c.hasMsg, c.pstate)) : Sim c c' := by
  simp only [Prod.mk.injEq] at h
  exact ⟨h.1, h.2.1, h.2.2.1, h.2.2.2.1, fun x => h.2.2.2.2.1 ▸ x, h.2.2.2.2.2⟩

/-- the result of a branch of `run` or `handle` that writes nothing -/
structure HQuiet (c c' : SlaveConn) (o : List Obs) : Prop where
  quiet : ∀ x ∈ o, ∀ f, x ≠ .tx f
  lastReq : c'.lastReq = c.lastReq
  msg : c'.msg = c.msg
  nextFcb : c'.nextFcb = c.nextFcb
  address : c'.address = c.address
  hasMsg : c'.hasMsg = true → c.hasMsg = true
  ps : c'.pstate = c.pstate ∨ (c'.pstate ≠ 4 ∧ c'.pstate ≠ 5)
  ps23 : (c'.pstate = 2 ∨ c'.pstate = 3) → (c.pstate = 2 ∨ c.pstate = 3 ∨ c.pstate = 4 ∨ c.pstate = 5)
  ps4 : c'.pstate = 4 → (c.pstate = 4 ∧ c'.hasMsg = c.hasMsg)

theorem J.some_of_wait {aL : Nat} {c : SlaveConn} {last : Option (List Nat)} (h : J aL c last) (hp : c.pstate = 4 ∨ c.pstate = 5) :
    last ≠ none := by
  rintro rfl
  exact hp.elim h.ghost.1 h.ghost.2.1

/-- `h23`: without a ghost the states 2 and 3 need `nextFcb = true`, so they are entered only from 2 or 3 or with a ghost -/
theorem J.move {aL : Nat} {c c' : SlaveConn} {last : Option (List Nat)} (h : J aL c last)
    (hr : c'.lastReq = c.lastReq) (hm : c'.msg = c.msg) (hf : c'.nextFcb = c.nextFcb) (ha : c'.address = c.address)
    (hh : c'.hasMsg = true → c.hasMsg = true)
    (hp : c'.pstate = c.pstate ∨ (c'.pstate ≠ 4 ∧ c'.pstate ≠ 5))
    (h23 : (c'.pstate = 2 ∨ c'.pstate = 3) → (c.pstate = 2 ∨ c.pstate = 3) ∨ last ≠ none)
    (h4 : c'.pstate = 4 → c'.hasMsg = true) : J aL c' last := by
  refine ⟨hr ▸ h.lastReq, fun x => hm ▸ h.msgOk (hh x), h4, ?_⟩
  have hg := h.ghost
  cases last with
  | none =>
    obtain ⟨g1, g2, g3⟩ := hg
    exact ⟨hp.elim (fun e => e ▸ g1) (·.1), hp.elim (fun e => e ▸ g2) (·.2),
      fun h' => hf ▸ (h23 h').elim g3 (absurd rfl)⟩
  | some g =>
    obtain ⟨g1, g2, g3, g4⟩ := hg
    refine ⟨g1, hf ▸ g2, fun h' => ?_, fun h' => ?_⟩
    · rcases hp with hp | hp
      · rw [hf, ha, hm]; exact g3 (hp ▸ h')
      · exact absurd h' hp.1
    · rcases hp with hp | hp
      · rw [hf, ha, hr]; exact g4 (hp ▸ h')
      · exact absurd h' hp.2

/-- RESET REMOTE LINK was written: no ghost, the connection waits in state 2 with the bit set -/
theorem J.reset {aL : Nat} {c c' : SlaveConn} {last : Option (List Nat)} (h : J aL c last)
    (hr : c'.lastReq = c.lastReq) (hm : c'.msg = c.msg) (hh : c'.hasMsg = true → c.hasMsg = true)
    (hp : c'.pstate = 2) (hf : c'.nextFcb = true) : J aL c' none :=
  ⟨hr ▸ h.lastReq, fun x => hm ▸ h.msgOk (hh x), fun x => by omega, by omega, by omega, fun _ => hf⟩

theorem J.keep {aL : Nat} {c c' : SlaveConn} {o : List Obs} {last : Option (List Nat)} (h : J aL c last)
    (hq : HQuiet c c' o) : J aL c' last :=
  h.move hq.lastReq hq.msg hq.nextFcb hq.address hq.hasMsg hq.ps
    (fun x => match hq.ps23 x with
      | .inl p => .inl (.inl p)
      | .inr (.inl p) => .inl (.inr p)
      | .inr (.inr p) => .inr (h.some_of_wait p))
    (fun x => (hq.ps4 x).2 ▸ h.ps4 (hq.ps4 x).1)

theorem hq_stay {c c' : SlaveConn} {o : List Obs} (hs : Sim c c') (hh : c'.hasMsg = c.hasMsg) (ho : NoTx o) : HQuiet c c' o :=
  ⟨ho, hs.lastReq, hs.msg, hs.nextFcb, hs.address, hs.hasMsg, .inl hs.pstate,
   fun h => hs.pstate ▸ h.elim .inl (.inr ∘ .inl), fun h => ⟨hs.pstate ▸ h, hh⟩⟩

/-- the states that neither wait for an answer nor have the link available: 0 = PLL_IDLE,
1 = PLL_EXECUTE_REQUEST_STATUS_OF_LINK, 6 = PLL_SECONDARY_LINK_LAYER_BUSY, 7 = PLL_TIMEOUT -/
theorem away {n : Nat} (h : n = 0 ∨ n = 1 ∨ n = 6 ∨ n = 7) : (n ≠ 4 ∧ n ≠ 5) ∧ ¬ (n = 2 ∨ n = 3) := by omega

theorem hq_leave {c c' : SlaveConn} {o : List Obs} (ho : NoTx o)
    (h : (c'.lastReq, c'.msg, c'.nextFcb, c'.address, c'.hasMsg) = (c.lastReq, c.msg, c.nextFcb, c.address, c.hasMsg))
    (hp : c'.pstate = 0 ∨ c'.pstate = 1 ∨ c'.pstate = 6 ∨ c'.pstate = 7) : HQuiet c c' o := by
  simp only [Prod.mk.injEq] at h
  exact ⟨ho, h.1, h.2.1, h.2.2.1, h.2.2.2.1, fun x => h.2.2.2.2 ▸ x, .inr (away hp).1, fun x => absurd x (away hp).2,
    fun x => absurd x (away hp).1.1⟩

/-- a branch that makes the link available (state 3), which happens from the states 2 to 5 only -/
theorem hq_avail {c c' : SlaveConn} {o : List Obs} (ho : NoTx o)
    (h : (c'.lastReq, c'.msg, c'.nextFcb, c'.address) = (c.lastReq, c.msg, c.nextFcb, c.address))
    (hh : c'.hasMsg = true → c.hasMsg = true) (hp : c'.pstate = 3)
    (h23 : c.pstate = 2 ∨ c.pstate = 3 ∨ c.pstate = 4 ∨ c.pstate = 5) : HQuiet c c' o := by
  simp only [Prod.mk.injEq] at h
  exact ⟨ho, h.1, h.2.1, h.2.2.1, h.2.2.2, hh, .inr ⟨by omega, by omega⟩, fun _ => h23, fun _ => by omega⟩

/-- the model's `let (c, o) := c0.setState n; ({ c with pstate := ps' }, o)`, as it elaborates -/
theorem hq_set (c c0 : SlaveConn) (hs : Sim c c0) (n ps' : Nat) (hps : ps' = 0 ∨ ps' = 1 ∨ ps' = 6 ∨ ps' = 7) :
    HQuiet c (match c0.setState n with | (c', o) => ({ c' with pstate := ps' }, o)).1
      (match c0.setState n with | (c', o) => ({ c' with pstate := ps' }, o)).2 := by
  rw [SlaveConn.setState_eq]
  exact ⟨noTx_st _ _ _, hs.lastReq, hs.msg, hs.nextFcb, hs.address, hs.hasMsg, .inr (away hps).1,
    fun x => absurd x (away hps).2, fun x => absurd x (away hps).1.1⟩

theorem hq_set3 (c c0 : SlaveConn) (hs : Sim c c0) (n : Nat)
    (h23 : c.pstate = 2 ∨ c.pstate = 3 ∨ c.pstate = 4 ∨ c.pstate = 5) :
    HQuiet c (match c0.setState n with | (c', o) => ({ c' with pstate := 3 }, o)).1
      (match c0.setState n with | (c', o) => ({ c' with pstate := 3 }, o)).2 := by
  rw [SlaveConn.setState_eq]
  exact ⟨noTx_st _ _ _, hs.lastReq, hs.msg, hs.nextFcb, hs.address, hs.hasMsg, .inr (by decide : (3 : Nat) ≠ 4 ∧ (3 : Nat) ≠ 5),
    fun _ => h23, fun h => absurd h (by decide : ¬ (3 : Nat) = 4)⟩

theorem J.setState_move {aL : Nat} {c : SlaveConn} {last : Option (List Nat)} (h : J aL c last) (c0 : SlaveConn) (n ps' : Nat)
    (hr : c0.lastReq = c.lastReq) (hm : c0.msg = c.msg) (hf : c0.nextFcb = c.nextFcb) (ha : c0.address = c.address)
    (hh : c0.hasMsg = true → c.hasMsg = true) (hps : ps' ≠ 4 ∧ ps' ≠ 5)
    (h23 : (ps' = 2 ∨ ps' = 3) → (c.pstate = 2 ∨ c.pstate = 3) ∨ last ≠ none) :
    J aL { (c0.setState n).1 with pstate := ps' } last := by
  rw [SlaveConn.setState_eq]
  exact h.move hr hm hf ha hh (.inr hps) h23 (absurd · hps.1)

def StepOk (aL : Nat) (last : Option (List Nat)) (r : SlaveConn × LL × List Obs) (p : Params) : Prop :=
  ∃ last', trackAll last r.2.2 = some last' ∧ J aL r.1 last' ∧ r.2.1.p = p

theorem stepOk_of_hquiet {aL : Nat} {c c' : SlaveConn} {l : LL} {o : List Obs} {last : Option (List Nat)}
    (hJ : J aL c last) (hq : HQuiet c c' o) : StepOk aL last (c', l, o) l.p :=
  ⟨last, trackAll_noTx last hq.quiet, hJ.keep hq, rfl⟩

theorem stepOk_tx {aL : Nat} {last last' : Option (List Nat)} {c' : SlaveConn} {l' : LL} {f : TxFrame} {o : List Obs} {p : Params}
    (ht : track last f.bytes = some last') (ho : NoTx o) (hJ : J aL c' last') (hp : l'.p = p) :
    StepOk aL last (c', l', .tx f :: o) p :=
  ⟨last', trackAll_tx ht ho, hJ, hp⟩

theorem stepOk_ite {aL : Nat} {last : Option (List Nat)} {p : Params} {g : Prop} [Decidable g] {a b : SlaveConn × LL × List Obs}
    (ha : g → StepOk aL last a p) (hb : ¬ g → StepOk aL last b p) : StepOk aL last (if g then a else b) p :=
  ite_ind (P := fun r => StepOk aL last r p) ha hb

/-- a request written while the link is available (test function, class 1 or 2 poll): a new FCV fixed frame with function
code `fc`, which the connection then waits on in state 5 -/
theorem stepOk_request {c c' : SlaveConn} {l l' : LL} {last : Option (List Nat)} (hJ : J l.p.addrLen c last)
    (h3 : c.pstate = 3) {fc : Nat} (hfc : fc < 16) {f : TxFrame}
    (hf : f.bytes = fixedFrame l.p.addrLen (ctrl fc true false c.nextFcb true) c.address)
    (h : (c'.lastReq, c'.msg, c'.nextFcb, c'.address, c'.hasMsg, c'.pstate) = (fc, c.msg, !c.nextFcb, c.address, c.hasMsg, 5))
    (hp : l'.p = l.p) : StepOk l.p.addrLen last (c', l', [.tx f]) l.p := by
  simp only [Prod.mk.injEq] at h
  obtain ⟨hl, hm, hn, ha, hh, hs⟩ := h
  have b := fixed_bits l.p.addrLen c.address hfc true false c.nextFcb true
  refine stepOk_tx (hf ▸ track_new last _ _ b.2.1 b.2.2.1 (hJ.expects h3)) noTx_nil
    ⟨hl ▸ hfc, fun x => hm ▸ hJ.msgOk (hh ▸ x), fun x => by omega, ?_⟩ hp
  rw [hf, hn, Bool.not_not, hl, ha]
  exact ⟨b.2.1, b.2.2.1, fun x => by omega, fun _ => rfl⟩

/-- `LinkLayerSlaveConnection_runStateMachine` -/
theorem run_fcb (c : SlaveConn) (l : LL) (now : Nat) (last : Option (List Nat)) (hJ : J l.p.addrLen c last) :
    StepOk l.p.addrLen last (c.run l now) l.p := by
  delta SlaveConn.run
  simp (config := { zeta := false }) only [SlaveConn.clock_eq, SlaveConn.setState_eq, LL.sendFixed_eq]
  extract_lets ps p cC cR
  -- nothing to do: at most the clock is corrected
  have idle : StepOk l.p.addrLen last (c, l, []) l.p := stepOk_of_hquiet hJ (hq_stay (.refl c) rfl noTx_nil)
  have idleC : StepOk l.p.addrLen last (cC, l, []) l.p :=
    stepOk_of_hquiet hJ (hq_stay (.of_eq rfl) rfl noTx_nil)
  -- one goal per branch, along the guards of the function and in its order
  refine stepOk_ite (fun _ => stepOk_ite (fun _ => ?_) fun _ => ?_) fun _ => ?_
  · exact stepOk_of_hquiet hJ (hq_leave noTx_nil rfl (.inl rfl))
  · exact idleC
  refine stepOk_ite (fun _ => ?_) fun _ => ?_
  · -- request status of link: FC 9 without FCV
    have b := fixed_bits l.p.addrLen c.address (by decide : 9 < 16) true false false false
    exact stepOk_tx (track_plain last _ b.2.1 (by rw [b.1]; decide)) noTx_nil
      (hJ.keep (hq_leave noTx_nil rfl (.inr (.inl rfl)))) rfl
  refine stepOk_ite (fun _ => stepOk_ite (fun _ => stepOk_ite (fun _ => ?_) fun _ => ?_) fun _ => ?_) fun _ => ?_
  · exact stepOk_of_hquiet hJ (hq_leave noTx_nil rfl (.inr (.inr (.inr rfl))))
  · exact idleC
  · -- RESET REMOTE LINK: the ghost starts over, the next FCV frame carries 1
    have b := fixed_bits l.p.addrLen c.address (by decide : 0 < 16) true false false false
    exact stepOk_tx (track_reset last _ b.2.1 b.1) noTx_nil
      (hJ.reset rfl rfl id rfl rfl) rfl
  refine stepOk_ite (fun h2 => stepOk_ite (fun _ => stepOk_ite (fun _ => ?_) fun _ => ?_) fun _ => ?_) fun _ => ?_
  · -- time-out of the reset: link error
    exact stepOk_of_hquiet hJ (hq_leave (noTx_st _ _ _) rfl (.inr (.inr (.inr rfl))))
  · exact idleC
  · -- the reset was acknowledged: AVAILABLE
    exact stepOk_of_hquiet hJ (hq_avail (noTx_st _ _ _) rfl id rfl (.inl h2))
  refine stepOk_ite (fun h3 => ?_) fun _ => ?_
  · have hexp := hJ.expects h3
    refine stepOk_ite (fun _ => ?_) fun _ => stepOk_ite (fun hm => ?_) fun _ => stepOk_ite (fun _ => ?_) fun _ => ?_
    · -- TEST FUNCTION FOR LINK
      exact stepOk_request hJ h3 (by decide : 2 < 16) rfl rfl rfl
    · -- USER DATA CONFIRMED, a new FCV frame
      obtain ⟨f, hf⟩ := framable_some l.p.addrLen (ctrl 3 true false c.nextFcb true) c.address c.msg (hJ.msgOk hm)
      obtain ⟨wf, e⟩ := sendVar_some l 3 c.address true false c.nextFcb true c.msg f hf
      have b := var_bits (by decide : 3 < 16) hf
      rw [e]
      exact stepOk_tx (track_new last _ _ b.2.1 b.2.2.1 hexp) noTx_nil
        ⟨hJ.lastReq, hJ.msgOk, fun _ => hm, b.2.1, b.2.2.1.trans (Bool.not_not _).symm,
          fun _ => by rw [Bool.not_not]; exact hf, nofun⟩ rfl
    · -- REQUEST USER DATA CLASS 1 / 2
      by_cases hr : c.req1 = true
      · simp only [cR, if_pos hr]
        exact stepOk_request hJ h3 (by decide : 10 < 16) rfl rfl rfl
      · simp only [cR, if_neg hr]
        exact stepOk_request hJ h3 (by decide : 11 < 16) rfl rfl rfl
    · exact idle
  refine stepOk_ite (fun h4 => stepOk_ite (fun _ => stepOk_ite (fun _ => ?_) fun _ => ?_) fun _ => ?_) fun _ => ?_
  · -- repeat time-out: link error
    exact stepOk_of_hquiet hJ (hq_leave (noTx_st _ _ _) rfl (.inr (.inr (.inr rfl))))
  · -- retransmission: the identical frame
    cases last with
    | none => exact absurd h4 hJ.ghost.1
    | some g =>
      obtain ⟨g1, _, g3, _⟩ := hJ.ghost
      obtain ⟨wf, e⟩ := sendVar_some l 3 cC.address true false (!cC.nextFcb) true cC.msg g (g3 h4)
      rw [e]
      exact stepOk_tx (track_repeat g g1) noTx_nil (hJ.keep (hq_stay (.of_eq rfl) rfl noTx_nil)) rfl
  · exact idleC
  refine stepOk_ite (fun h5 => stepOk_ite (fun _ => stepOk_ite (fun _ => ?_) fun _ => ?_) fun _ => ?_) fun _ => ?_
  · exact stepOk_of_hquiet hJ (hq_leave (noTx_st _ _ _) rfl (.inl rfl))
  · cases last with
    | none => exact absurd h5 hJ.ghost.2.1
    | some g =>
      obtain ⟨g1, _, _, g4⟩ := hJ.ghost
      cases g4 h5
      exact stepOk_tx (track_repeat _ g1) noTx_nil (hJ.keep (hq_stay (.of_eq rfl) rfl noTx_nil)) rfl
  · exact idleC
  exact idle

theorem hq_ite {c : SlaveConn} {g : Prop} [Decidable g] {a b : SlaveConn × List Obs} (ha : g → HQuiet c a.1 a.2)
    (hb : ¬ g → HQuiet c b.1 b.2) : HQuiet c (if g then a else b).1 (if g then a else b).2 := by
  split
  · exact ha ‹_›
  · exact hb ‹_›

/-- the branches of `HandleMessage` that write nothing end with `waiting := false` -/
theorem stepOk_unwait {aL : Nat} {c : SlaveConn} {l : LL} {last : Option (List Nat)} (hJ : J aL c last)
    (r : SlaveConn × List Obs) : HQuiet c r.1 r.2 →
    StepOk aL last (match r with | (c', o) => ({ c' with waiting := false }, l, o)) l.p :=
  fun hq => stepOk_of_hquiet hJ ⟨hq.quiet, hq.lastReq, hq.msg, hq.nextFcb, hq.address, hq.hasMsg, hq.ps, hq.ps23, hq.ps4⟩

/-- the end of `HandleMessage`: the access demand callback -/
theorem stepOk_ad {aL : Nat} {last : Option (List Nat)} {p : Params} (r : SlaveConn × LL × List Obs) {extra : List Obs}
    (he : NoTx extra) : StepOk aL last r p → StepOk aL last (match r with | (c, l, o) => (c, l, o ++ extra)) p :=
  fun ⟨last', t, j, hp⟩ => ⟨last', (trackAll_append t extra).trans (trackAll_noTx last' he), j, hp⟩

/-- `LinkLayerSlaveConnection_HandleMessage` -/
theorem handle_fcb (c : SlaveConn) (l : LL) (now fc : Nat) (acd dfc : Bool) (address : Int) (us : Nat) (ul : Int)
    (last : Option (List Nat)) (hJ : J l.p.addrLen c last) :
    StepOk l.p.addrLen last (c.handle l now fc acd dfc address us ul) l.p := by
  delta SlaveConn.handle
  extract_lets ps cD ns cN cA cM cT cW oU cQ
  refine stepOk_ite (fun _ => ?_) fun _ => ?_
  · -- DFC: the state the connection returns to is not a waiting one, or the one it is in
    obtain ⟨n4, n5, n23⟩ := dfc_state (ps := ps) (ns := ns) rfl
    simp only [SlaveConn.setState_eq]
    exact stepOk_of_hquiet hJ ⟨noTx_st _ _ _, rfl, rfl, rfl, rfl, id, n5.elim .inl fun h => .inr ⟨n4, h⟩,
      fun h => .inr (.inl (n23 h)), fun h => absurd h n4⟩
  have sA : Sim c cA := by dsimp only [cA]; split <;> exact .of_eq rfl
  have hA : cA.hasMsg = c.hasMsg := by dsimp only [cA]; split <;> rfl
  have set0 := hq_set c cA sA 1 0 (.inl rfl)
  -- the wrapped code is taken as a variable first: unifying `match ?r with ..` with the term itself would normalise it
  generalize hr : ite (fc = 0) _ _ = r
  refine stepOk_ad r (noTx_opt _ Obs.ad_ne_tx) ?_
  subst hr
  refine stepOk_ite (fun _ => ?_) fun _ => ?_
  · -- ACK
    generalize hr : ite (ps = 2) _ _ = r
    refine stepOk_unwait hJ r ?_
    subst hr
    refine hq_ite (fun h2 => ?_) fun _ => hq_ite (fun h4 => ?_) fun _ => hq_ite (fun h5 => ?_) fun _ => ?_
    · exact hq_set3 c cA sA 3 (.inl h2)
    · exact hq_set3 c cM ⟨sA.lastReq, sA.msg, sA.nextFcb, sA.address, (absurd · Bool.false_ne_true), sA.pstate⟩ 3
        (.inr (.inr (.inl h4)))
    · have sT : Sim c cT := by
        dsimp only [cT]; split
        · exact ⟨sA.lastReq, sA.msg, sA.nextFcb, sA.address, sA.hasMsg, sA.pstate⟩
        · exact sA
      exact hq_set3 c cT sT 3 (.inr (.inr (.inr h5)))
    · exact hq_stay sA hA noTx_nil
  refine stepOk_ite (fun _ => ?_) fun _ => ?_
  · -- NACK
    generalize hr : ite (ps = 4) _ _ = r
    refine stepOk_unwait hJ r ?_
    subst hr
    exact hq_ite (fun _ => hq_set c cA sA 2 6 (.inr (.inr (.inl rfl)))) fun _ => hq_stay sA hA noTx_nil
  refine stepOk_ite (fun _ => stepOk_ite (fun _ => ?_) fun _ => ?_) fun _ => ?_
  · -- STATUS OF LINK while it was requested: RESET REMOTE LINK goes out, the ghost starts over
    simp only [SlaveConn.setState_eq, LL.sendFixed_eq]
    have b := fixed_bits l.p.addrLen cA.address (by decide : 0 < 16) true false false false
    exact stepOk_tx (track_reset last _ b.2.1 b.1) (noTx_st _ _ _)
      (hJ.reset sA.lastReq sA.msg sA.hasMsg rfl rfl) rfl
  · exact stepOk_of_hquiet hJ set0
  refine stepOk_ite (fun _ => ?_) fun _ => ?_
  · -- RESP USER DATA
    generalize hr : ite (ps = 5) _ _ = r
    refine stepOk_unwait hJ r ?_
    subst hr
    refine hq_ite (fun h5 => ?_) fun _ => set0
    have h := hq_set3 c cQ ⟨sA.lastReq, sA.msg, sA.nextFcb, sA.address, sA.hasMsg, sA.pstate⟩ 3 (.inr (.inr (.inr h5)))
    exact ⟨noTx_cons Obs.ud_ne_tx h.quiet, h.lastReq, h.msg, h.nextFcb, h.address, h.hasMsg, h.ps, h.ps23, h.ps4⟩
  refine stepOk_ite (fun _ => ?_) fun _ => ?_
  · -- RESP NACK
    generalize hr : ite (ps = 5) _ _ = r
    refine stepOk_unwait hJ r ?_
    subst hr
    exact hq_ite (fun h5 => hq_set3 c cA sA 3 (.inr (.inr (.inr h5)))) fun _ => set0
  refine stepOk_ite (fun _ => ?_) fun _ => ?_
  · -- link service not functioning / not implemented
    generalize hr : ite (ps = 4) _ _ = r
    refine stepOk_unwait hJ r ?_
    subst hr
    refine hq_ite (fun h4 => ?_) fun _ => hq_ite (fun h5 => ?_) fun _ => hq_stay sA hA noTx_nil
    · exact hq_set3 c cA sA 3 (.inr (.inr (.inl h4)))
    · exact hq_set3 c { cA with testFn := false } ⟨sA.lastReq, sA.msg, sA.nextFcb, sA.address, sA.hasMsg, sA.pstate⟩ 3
        (.inr (.inr (.inr h5.1)))
  exact stepOk_of_hquiet hJ (hq_stay ⟨sA.lastReq, sA.msg, sA.nextFcb, sA.address, sA.hasMsg, sA.pstate⟩ hA noTx_nil)

/-- what happens to one `LinkLayerSlaveConnection`: its state machine runs, a received frame is handled, the application
hands over user data (that fits a frame) or asks for a poll / a link test -/
inductive FOp where
  | run (now : Nat)
  | handle (now fc : Nat) (acd dfc : Bool) (address : Int) (us : Nat) (ul : Int)
  | send (d : List Nat)
  | req1
  | req2
  | test

def FOp.apply (x : SlaveConn × LL) : FOp → (SlaveConn × LL) × List Obs
  | .run now => let r := x.1.run x.2 now; ((r.1, r.2.1), r.2.2)
  | .handle now fc acd dfc address us ul => let r := x.1.handle x.2 now fc acd dfc address us ul; ((r.1, r.2.1), r.2.2)
  | .send d => if x.1.hasMsg = false ∧ Framable x.2.p.addrLen d then (({ x.1 with msg := d, hasMsg := true }, x.2), []) else (x, [])
  | .req1 => (({ x.1 with req1 := true }, x.2), [])
  | .req2 => (({ x.1 with req2 := true }, x.2), [])
  | .test => (({ x.1 with testFn := true }, x.2), [])

def FOp.runAll : (SlaveConn × LL) → List FOp → List Obs
  | _, [] => []
  | x, op :: ops => (op.apply x).2 ++ FOp.runAll (op.apply x).1 ops

theorem apply_fcb (x : SlaveConn × LL) (op : FOp) (last : Option (List Nat)) (hJ : J x.2.p.addrLen x.1 last) :
    ∃ last', trackAll last (op.apply x).2 = some last' ∧ J (op.apply x).1.2.p.addrLen (op.apply x).1.1 last' ∧
      (op.apply x).1.2.p = x.2.p := by
  obtain ⟨c, l⟩ := x
  cases op with
  | run now =>
    obtain ⟨last', t, j, hp⟩ := run_fcb c l now last hJ
    exact ⟨last', t, hp.symm ▸ j, hp⟩
  | handle now fc acd dfc address us ul =>
    obtain ⟨last', t, j, hp⟩ := handle_fcb c l now fc acd dfc address us ul last hJ
    exact ⟨last', t, hp.symm ▸ j, hp⟩
  | send d =>
    simp only [FOp.apply]
    split
    · -- new user data is taken only while none is pending, so not in the state that waits for its acknowledgement
      rename_i hc
      have hn4 : c.pstate ≠ 4 := fun h4 => Bool.false_ne_true (hc.1 ▸ hJ.ps4 h4)
      refine ⟨last, rfl, ⟨hJ.lastReq, fun _ => hc.2, fun _ => rfl, ?_⟩, rfl⟩
      have hg := hJ.ghost
      cases last with
      | none => exact hg
      | some g => exact ⟨hg.1, hg.2.1, (absurd · hn4), hg.2.2.2⟩
    · exact ⟨last, rfl, hJ, rfl⟩
  | req1 => exact ⟨last, rfl, ⟨hJ.lastReq, hJ.msgOk, hJ.ps4, hJ.ghost⟩, rfl⟩
  | req2 => exact ⟨last, rfl, ⟨hJ.lastReq, hJ.msgOk, hJ.ps4, hJ.ghost⟩, rfl⟩
  | test => exact ⟨last, rfl, ⟨hJ.lastReq, hJ.msgOk, hJ.ps4, hJ.ghost⟩, rfl⟩

theorem runAll_fcb : ∀ (ops : List FOp) (x : SlaveConn × LL) (last : Option (List Nat)), J x.2.p.addrLen x.1 last →
    ∃ last', trackAll last (FOp.runAll x ops) = some last' := by
  intro ops
  induction ops with
  | nil => intro x last _; exact ⟨last, rfl⟩
  | cons op ops ih =>
    intro x last hJ
    obtain ⟨l1, t1, j1, _⟩ := apply_fcb x op last hJ
    obtain ⟨l2, t2⟩ := ih (op.apply x).1 l1 j1
    exact ⟨l2, (trackAll_append t1 _).trans t2⟩

theorem J_init (aL a : Nat) : J aL ({ address := a } : SlaveConn) none :=
  { lastReq := (by show (11 : Nat) < 16; decide)
    msgOk := (fun h => by cases h)
    ps4 := (fun h => by cases h)
    ghost := ⟨(by show (0 : Nat) ≠ 4; decide), (by show (0 : Nat) ≠ 5; decide), fun _ => rfl⟩ }

end Iec.Link101
