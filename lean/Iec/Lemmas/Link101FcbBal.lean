/-
The frame count bit of the balanced station's primary part over every history (C15): among the frames it writes as a
primary (PRM = 1; the acknowledgements it writes as a secondary are not concerned), the first FCV frame after a RESET REMOTE
LINK carries FCB = 1, every further one toggles the bit or is octet for octet the FCV frame before it.
-/
import Iec.Lemmas.Link101Track
namespace Iec.Link101

/-- the primary part of the station agrees with the ghost, as `J` does for the unbalanced master.  The one waiting state is
4 = PLL_EXECUTE_SERVICE_SEND_CONFIRM; the frame a time-out writes again there is the link test or `lastAsdu`, by `testSent`. -/
structure JB (s : Bal) (last : Option (List Nat)) : Prop where
  outOk : ∀ d ∈ s.out, Framable s.ll.p.addrLen d
  ghost : match last with
    | none => s.pstate ≠ 4 ∧ ((s.pstate = 2 ∨ s.pstate = 3) → s.nextFcb = true)
    | some g => prmOf g = true ∧ fcvOf g = true ∧ fcbOf g = !s.nextFcb ∧
        (s.pstate = 4 →
          (s.testSent = true → g = fixedFrame s.ll.p.addrLen (ctrl 2 true s.ll.dir (!s.nextFcb) true) s.other) ∧
          (s.testSent = false → varFrame s.ll.p.addrLen (ctrl 3 true s.ll.dir (!s.nextFcb) true) s.other s.lastAsdu = some g))

/-- the fields the invariant reads are unchanged (the queue may only have lost its head) -/
structure SimB (s s' : Bal) : Prop where
  p : s'.ll.p = s.ll.p
  dir : s'.ll.dir = s.ll.dir
  other : s'.other = s.other
  nextFcb : s'.nextFcb = s.nextFcb
  lastAsdu : s'.lastAsdu = s.lastAsdu
  testSent : s'.testSent = s.testSent
  out : ∀ d ∈ s'.out, d ∈ s.out

/-- stated as one equation, so that `rfl` proves it of a state written out -/
theorem SimB.of_eq {s s' : Bal} (h : (s'.ll.p, s'.ll.dir, s'.other, s'.nextFcb, s'.lastAsdu, s'.testSent, s'.out) =
    (s.ll.p, s.ll.dir, s.other, s.nextFcb, s.lastAsdu, s.testSent, s.out)) : SimB s s' := by
  simp only [Prod.mk.injEq] at h
  exact ⟨h.1, h.2.1, h.2.2.1, h.2.2.2.1, h.2.2.2.2.1, h.2.2.2.2.2.1, fun _ hd => h.2.2.2.2.2.2 ▸ hd⟩

theorem JB.move {s s' : Bal} {last : Option (List Nat)} (h : JB s last) (hs : SimB s s')
    (hp : s'.pstate = s.pstate ∨ s'.pstate ≠ 4)
    (h23 : (s'.pstate = 2 ∨ s'.pstate = 3) → (s.pstate = 2 ∨ s.pstate = 3) ∨ last ≠ none) : JB s' last := by
  refine ⟨fun d hd => hs.p ▸ h.outOk d (hs.out d hd), ?_⟩
  have hg := h.ghost
  cases last with
  | none => exact ⟨hp.elim (fun e => e ▸ hg.1) id, fun h' => hs.nextFcb ▸ (h23 h').elim hg.2 (absurd rfl)⟩
  | some g =>
    obtain ⟨g1, g2, g3, g4⟩ := hg
    refine ⟨g1, g2, hs.nextFcb ▸ g3, fun h' => ?_⟩
    rcases hp with hp | hp
    · rw [hs.p, hs.dir, hs.nextFcb, hs.other, hs.lastAsdu, hs.testSent]; exact g4 (hp ▸ h')
    · exact absurd h' hp

theorem JB.some_of_wait {s : Bal} {last : Option (List Nat)} (h : JB s last) (hp : s.pstate = 4) : last ≠ none := by
  rintro rfl; exact h.ghost.1 hp

/-- a step to a state in which the primary neither waits for a confirmation nor has the link available: 0 = PLL_IDLE,
1 = PLL_EXECUTE_REQUEST_STATUS_OF_LINK, 6 = PLL_SECONDARY_LINK_LAYER_BUSY -/
theorem JB.leave {s s' : Bal} {last : Option (List Nat)} (h : JB s last) (hs : SimB s s')
    (hp : s'.pstate = 0 ∨ s'.pstate = 1 ∨ s'.pstate = 6) : JB s' last :=
  h.move hs (.inr (by omega)) fun x => by omega

/-- the link becomes available (state 3): from the states 2 to 4 only, and in 4 there is a ghost -/
theorem JB.avail {s s' : Bal} {last : Option (List Nat)} (h : JB s last) (hs : SimB s s') (hp : s'.pstate = 3)
    (h23 : s.pstate = 2 ∨ s.pstate = 3 ∨ s.pstate = 4) : JB s' last :=
  h.move hs (.inr (by omega)) fun _ => match h23 with
    | .inl p => .inl (.inl p)
    | .inr (.inl p) => .inl (.inr p)
    | .inr (.inr p) => .inr (h.some_of_wait p)

/-- RESET REMOTE LINK was written: no ghost, the primary waits in state 2 with the bit set -/
theorem JB.reset {s s' : Bal} {last : Option (List Nat)} (h : JB s last) (ho : s'.out = s.out) (hl : s'.ll.p = s.ll.p)
    (hp : s'.pstate = 2) (hf : s'.nextFcb = true) : JB s' none :=
  ⟨fun d hd => hl ▸ h.outOk d (ho ▸ hd), by omega, fun _ => hf⟩

theorem JB.expects {s : Bal} {last : Option (List Nat)} (h : JB s last) (h3 : s.pstate = 3) : Expects last s.nextFcb := by
  have hg := h.ghost
  cases last with
  | none => exact hg.2 (Or.inr h3)
  | some g => exact hg.2.2.1

theorem Bal.setState_eq (s : Bal) (n : Nat) :
    s.setState n = ({ s with state := n }, if s.state ≠ n then [.st (-1) n] else []) := by
  unfold Bal.setState
  split
  · rfl
  · rename_i h; cases Decidable.of_not_not h; rfl

theorem JB.set_move {s : Bal} {last : Option (List Nat)} (h : JB s last) (s0 : Bal) (hs : SimB s s0) (n ps' : Nat) (hps : ps' ≠ 4)
    (h23 : (ps' = 2 ∨ ps' = 3) → (s.pstate = 2 ∨ s.pstate = 3) ∨ last ≠ none) (w : Bool) :
    JB { (s0.setState n).1 with pstate := ps', waiting := w } last := by
  rw [Bal.setState_eq]
  exact h.move ⟨hs.p, hs.dir, hs.other, hs.nextFcb, hs.lastAsdu, hs.testSent, hs.out⟩ (.inr hps) h23

def StepOkB (last : Option (List Nat)) (r : Bal × List Obs) : Prop :=
  ∃ last', trackAllB last r.2 = some last' ∧ JB r.1 last'

theorem stepOkB_quiet {last : Option (List Nat)} {s' : Bal} {o : List Obs} (ho : NoTx o) (hJ : JB s' last) :
    StepOkB last (s', o) :=
  ⟨last, trackAllB_noTx last ho, hJ⟩

theorem stepOkB_tx {last last' : Option (List Nat)} {s' : Bal} {f : TxFrame} {o : List Obs} (hp : prmOf f.bytes = true)
    (ht : track last f.bytes = some last') (ho : NoTx o) (hJ : JB s' last') : StepOkB last (s', .tx f :: o) :=
  ⟨last', trackAllB_tx ((trackB_pri last _ hp).trans ht) ho, hJ⟩

theorem Bal.clock_eq (s : Bal) (now : Nat) :
    (if s.lastSend > now then { s with lastSend := now } else s) = { s with lastSend := min s.lastSend now } := by
  split
  · rename_i h; rw [Nat.min_eq_right (Nat.le_of_lt h)]
  · rename_i h; rw [Nat.min_eq_left (Nat.le_of_not_gt h)]

theorem Bal.clockR_eq (s : Bal) (now : Nat) :
    (if s.lastReceived > now then { s with lastReceived := now } else s) = { s with lastReceived := min s.lastReceived now } := by
  split
  · rename_i h; rw [Nat.min_eq_right (Nat.le_of_lt h)]
  · rename_i h; rw [Nat.min_eq_left (Nat.le_of_not_gt h)]

theorem Bal.testFn_eq (s : Bal) (g : Prop) [Decidable g] (b : Bool) :
    (if g then { s with testFn := b } else s) = { s with testFn := if g then b else s.testFn } := by
  split <;> rfl

/-- `LinkLayerPrimaryBalanced_runStateMachine` -/
theorem priRun_fcb (s : Bal) (now : Nat) (last : Option (List Nat)) (hJ : JB s last) : StepOkB last (s.priRun now) := by
  have stay : ∀ {s' : Bal}, SimB s s' → s'.pstate = s.pstate → StepOkB last (s', []) :=
    fun hs hp => stepOkB_quiet noTx_nil (hJ.move hs (.inl hp) fun h => .inl (hp ▸ h))
  delta Bal.priRun
  simp (config := { zeta := false }) only [Bal.clock_eq, Bal.clockR_eq, Bal.testFn_eq, Bal.setState_eq, LL.sendFixed_eq]
  extract_lets ps sC sR sI
  -- nothing to do: at most a clock is corrected
  have idleC : StepOkB last (sC, []) := stay (.of_eq rfl) rfl
  refine ite_ind (fun _ => ?_) fun _ => ?_
  · -- request status of link: FC 9 without FCV
    have b := fixed_bits s.ll.p.addrLen s.other (by decide : 9 < 16) true s.ll.dir false false
    exact stepOkB_tx b.2.2.2 (track_plain last _ b.2.1 (by rw [b.1]; decide)) noTx_nil
      (hJ.leave (.of_eq rfl) (.inr (.inl rfl)))
  refine ite_ind (fun _ => ite_ind (fun _ => ite_ind (fun _ => ?_) fun _ => ?_) fun _ => ?_) fun _ => ?_
  · exact stepOkB_quiet noTx_nil (hJ.leave (.of_eq rfl) (.inl rfl))
  · exact idleC
  · -- RESET REMOTE LINK: the ghost starts over, the next FCV frame carries 1
    have b := fixed_bits s.ll.p.addrLen s.other (by decide : 0 < 16) true s.ll.dir false false
    exact stepOkB_tx b.2.2.2 (track_reset last _ b.2.1 b.1) noTx_nil (hJ.reset rfl rfl rfl rfl)
  refine ite_ind (fun h2 => ite_ind (fun _ => ite_ind (fun _ => ?_) fun _ => ?_) fun _ => ?_) fun _ => ?_
  · exact stepOkB_quiet (noTx_st _ _ _) (hJ.leave (.of_eq rfl) (.inl rfl))
  · exact idleC
  · exact stepOkB_quiet (noTx_st _ _ _) (hJ.avail (.of_eq rfl) rfl (.inl h2))
  refine ite_ind (fun h3 => ?_) fun _ => ?_
  · have hexp := hJ.expects h3
    refine ite_ind (fun _ => ?_) fun _ => ?_
    · -- TEST FUNCTION FOR LINK, a new FCV frame
      have b := fixed_bits s.ll.p.addrLen s.other (by decide : 2 < 16) true s.ll.dir s.nextFcb true
      exact stepOkB_tx b.2.2.2 (track_new last _ _ b.2.1 b.2.2.1 hexp) noTx_nil
        ⟨hJ.outOk, b.2.2.2, b.2.1, b.2.2.1.trans (Bool.not_not _).symm,
          fun _ => ⟨fun _ => by rw [Bool.not_not], nofun⟩⟩
    split
    · exact stay (.of_eq rfl) rfl
    · -- USER DATA CONFIRMED from the application queue, a new FCV frame
      rename_i d rest hout
      have hmem : ∀ x ∈ d :: rest, Framable s.ll.p.addrLen x := fun x hx => hJ.outOk x (hout ▸ hx)
      obtain ⟨f, hf⟩ := framable_some s.ll.p.addrLen (ctrl 3 true s.ll.dir s.nextFcb true) s.other d
        (hmem d List.mem_cons_self)
      extract_lets sU
      obtain ⟨wf, e⟩ := sendVar_some sU.ll 3 sU.other true sU.ll.dir sU.nextFcb true d f hf
      have b := var_bits (by decide : 3 < 16) hf
      rw [e]
      exact stepOkB_tx b.2.2.2 (track_new last _ _ b.2.1 b.2.2.1 hexp) noTx_nil
        ⟨fun x hx => hmem x (List.mem_cons_of_mem _ hx), b.2.2.2, b.2.1, b.2.2.1.trans (Bool.not_not _).symm,
          fun _ => ⟨nofun, fun _ => by rw [Bool.not_not]; exact hf⟩⟩
  refine ite_ind (fun h4 => ite_ind (fun _ => ite_ind (fun _ => ?_) fun _ => ?_) fun _ => ?_) fun _ => ?_
  · -- repeat time-out: link error
    exact stepOkB_quiet (noTx_st _ _ _) (hJ.leave (.of_eq rfl) (.inl rfl))
  · -- retransmission: the identical frame
    cases last with
    | none => exact absurd h4 hJ.ghost.1
    | some g =>
      obtain ⟨g0, g1, _, g3⟩ := hJ.ghost
      by_cases hts : s.testSent = true
      · simp only [sC, if_pos hts]
        cases (g3 h4).1 hts
        exact stepOkB_tx g0 (track_repeat _ g1) noTx_nil
          (hJ.move (.of_eq rfl) (.inl rfl) fun _ => .inr nofun)
      · obtain ⟨wf, e⟩ := sendVar_some s.ll 3 s.other true s.ll.dir (!s.nextFcb) true s.lastAsdu g
          ((g3 h4).2 (Bool.eq_false_iff.2 hts))
        simp only [sC, if_neg hts, e]
        exact stepOkB_tx g0 (track_repeat _ g1) noTx_nil
          (hJ.move (.of_eq rfl) (.inl rfl) fun _ => .inr nofun)
  · exact idleC
  exact stay (.of_eq rfl) rfl

/-- `LinkLayerPrimaryBalanced_handleMessage` -/
theorem priHandle_fcb (s : Bal) (now fc : Nat) (dfc : Bool) (last : Option (List Nat)) (hJ : JB s last) :
    StepOkB last (s.priHandle now fc dfc) := by
  have stay : ∀ {s' : Bal}, SimB s s' → s'.pstate = s.pstate → StepOkB last (s', []) :=
    fun hs hp => stepOkB_quiet noTx_nil (hJ.move hs (.inl hp) fun h => .inl (hp ▸ h))
  delta Bal.priHandle
  simp (config := { zeta := false }) only [Bal.testFn_eq, Bal.setState_eq, LL.sendFixed_eq]
  extract_lets ps sL ns sW sT
  refine ite_ind (fun _ => ?_) fun _ => ?_
  · -- DFC: the state the primary returns to is not the waiting one
    obtain ⟨n4, -, n23⟩ := dfc_state (ps := ps) (ns := ns) rfl
    exact stepOkB_quiet (noTx_st _ _ _) (hJ.move (.of_eq rfl) (.inr n4) fun h => .inl (.inr (n23 h)))
  refine ite_ind (fun _ => ite_ind (fun h2 => ?_) fun _ => ite_ind (fun h4 => ?_) fun _ => ite_ind (fun _ => ?_) fun _ => ?_)
    fun _ => ?_
  · exact stepOkB_quiet (noTx_st _ _ _) (hJ.avail (.of_eq rfl) rfl (.inl h2))
  · exact stepOkB_quiet (noTx_st _ _ _) (hJ.avail (.of_eq rfl) rfl (.inr (.inr h4)))
  · exact stay (.of_eq rfl) rfl
  · exact stay (.of_eq rfl) rfl
  refine ite_ind (fun _ => ite_ind (fun _ => ?_) fun _ => ?_) fun _ => ?_
  · exact stepOkB_quiet (noTx_st _ _ _) (hJ.leave (.of_eq rfl) (.inr (.inr rfl)))
  · exact stay (.of_eq rfl) rfl
  refine ite_ind (fun _ => ?_) fun _ => ?_
  · exact stepOkB_quiet (noTx_st _ _ _) (hJ.leave (.of_eq rfl) (.inl rfl))
  refine ite_ind (fun _ => ite_ind (fun _ => ?_) fun _ => ?_) fun _ => ?_
  · -- STATUS OF LINK while it was requested: RESET REMOTE LINK goes out, the ghost starts over
    have b := fixed_bits s.ll.p.addrLen s.other (by decide : 0 < 16) true s.ll.dir false false
    exact stepOkB_tx b.2.2.2 (track_reset last _ b.2.1 b.1) (noTx_st _ _ _) (hJ.reset rfl rfl rfl rfl)
  · exact stepOkB_quiet (noTx_st _ _ _) (hJ.leave (.of_eq rfl) (.inl rfl))
  refine ite_ind (fun _ => ite_ind (fun h4 => ?_) fun _ => ?_) fun _ => ?_
  · exact stepOkB_quiet (noTx_st _ _ _) (hJ.avail (.of_eq rfl) rfl (.inr (.inr h4)))
  · exact stay (.of_eq rfl) rfl
  exact stay (.of_eq rfl) rfl

/-- a step of the secondary part: only frames with PRM = 0, the primary part is not touched -/
structure SecStep (s : Bal) (r : Bal × List Obs) : Prop where
  sim : SimB s r.1
  ps : r.1.pstate = s.pstate
  tr : ∀ last, trackAllB last r.2 = some last

theorem secStep_ok {s : Bal} {r : Bal × List Obs} {last : Option (List Nat)} (hJ : JB s last) (h : SecStep s r) : StepOkB last r :=
  ⟨last, h.tr last, hJ.move h.sim (.inl h.ps) fun x => .inl (h.ps ▸ x)⟩

theorem ack_sec {s s0 : Bal} (hs : SimB s s0) (hp : s0.pstate = s.pstate) : SecStep s s0.ack := by
  unfold Bal.ack LL.sendSingle
  rw [LL.sendFixed_eq]
  split
  · exact ⟨⟨hs.p, hs.dir, hs.other, hs.nextFcb, hs.lastAsdu, hs.testSent, hs.out⟩, hp,
      fun last => trackAllB_tx (trackB_sec last _ (by decide : prmOf singleChar = false)) noTx_nil⟩
  · exact ⟨⟨hs.p, hs.dir, hs.other, hs.nextFcb, hs.lastAsdu, hs.testSent, hs.out⟩, hp, fun last =>
      trackAllB_tx (trackB_sec last _ (fixed_bits _ _ (by decide : 0 < 16) false _ false false).2.2.2) noTx_nil⟩

theorem secStep_prepend {s : Bal} {r : Bal × List Obs} {o : List Obs} (ho : NoTx o) (h : SecStep s r) :
    SecStep s (r.1, o ++ r.2) :=
  ⟨h.sim, h.ps, fun last => (trackAllB_append (trackAllB_noTx last ho) r.2).trans (h.tr last)⟩

theorem Bal.lastAck_eq (s : Bal) (g : Prop) [Decidable g] (b : Bool) :
    (if g then { s with lastAck := b } else s) = { s with lastAck := if g then b else s.lastAck } := by
  split <;> rfl

/-- `LinkLayerSecondaryBalanced_handleMessage` -/
theorem secHandle_fcb (s : Bal) (fc : Nat) (fcb fcv : Bool) (us : Nat) (ul : Int) (last : Option (List Nat)) (hJ : JB s last) :
    StepOkB last (s.secHandle fc fcb fcv us ul) := by
  apply secStep_ok hJ
  have quiet : ∀ {s' : Bal} {o : List Obs}, SimB s s' → s'.pstate = s.pstate → NoTx o → SecStep s (s', o) :=
    fun hs hp ho => ⟨hs, hp, fun last => trackAllB_noTx last ho⟩
  have answer : ∀ {s' : Bal} {fc : Nat} {f : TxFrame}, fc < 16 → SimB s s' → s'.pstate = s.pstate →
      f.bytes = fixedFrame s.ll.p.addrLen (ctrl fc false s.ll.dir false false) s.ll.address → SecStep s (s', [.tx f]) :=
    fun hfc hs hp hf => ⟨hs, hp, fun last =>
      trackAllB_tx (trackB_sec last _ (hf ▸ (fixed_bits _ _ hfc false _ false false).2.2.2)) noTx_nil⟩
  delta Bal.secHandle
  simp (config := { zeta := false }) only [Bal.lastAck_eq, LL.sendFixed_eq]
  extract_lets s1 s2 oR
  have h : SimB s s2 := (.of_eq rfl)
  refine ite_ind (fun _ => ite_ind (fun _ => ?_) fun _ => ?_) fun _ => ?_
  · -- repetition: the ACK again, no delivery
    exact ack_sec (.of_eq rfl) rfl
  · exact quiet (.of_eq rfl) rfl noTx_nil
  refine ite_ind (fun _ => ?_) fun _ => ite_ind (fun _ => ?_) fun _ => ?_
  · exact ack_sec (.of_eq rfl) rfl
  · exact ack_sec (.of_eq rfl) rfl
  refine ite_ind (fun _ => ite_ind (fun _ => ite_ind (fun _ => ?_) fun _ => ?_) fun _ => ?_) fun _ => ?_
  · -- user data: delivered, then acknowledged
    exact secStep_prepend (noTx_cons Obs.rx_ne_tx noTx_nil) (ack_sec (.of_eq rfl) rfl)
  · exact quiet h rfl (noTx_cons Obs.rx_ne_tx noTx_nil)
  · exact quiet h rfl noTx_nil
  refine ite_ind (fun _ => ?_) fun _ => ite_ind (fun _ => ?_) fun _ => ?_
  · exact quiet h rfl (noTx_opt _ Obs.rx_ne_tx)
  · -- REQUEST STATUS OF LINK: STATUS OF LINK
    exact answer (by decide : 11 < 16) (.of_eq rfl) rfl rfl
  · exact answer (by decide : 15 < 16) (.of_eq rfl) rfl rfl

inductive BOp where
  | priRun (now : Nat)
  | priHandle (now fc : Nat) (dfc : Bool)
  | secHandle (fc : Nat) (fcb fcv : Bool) (us : Nat) (ul : Int)
  /-- the application queues user data (that fits a frame) -/
  | out (d : List Nat)
  | test

def BOp.apply (s : Bal) : BOp → Bal × List Obs
  | .priRun now => s.priRun now
  | .priHandle now fc dfc => s.priHandle now fc dfc
  | .secHandle fc fcb fcv us ul => s.secHandle fc fcb fcv us ul
  | .out d => if Framable s.ll.p.addrLen d then ({ s with out := s.out ++ [d] }, []) else (s, [])
  | .test => ({ s with testFn := true }, [])

def BOp.runAll : Bal → List BOp → List Obs
  | _, [] => []
  | s, op :: ops => (op.apply s).2 ++ BOp.runAll (op.apply s).1 ops

theorem applyB_fcb (s : Bal) (op : BOp) (last : Option (List Nat)) (hJ : JB s last) : StepOkB last (op.apply s) := by
  cases op with
  | priRun now => exact priRun_fcb s now last hJ
  | priHandle now fc dfc => exact priHandle_fcb s now fc dfc last hJ
  | secHandle fc fcb fcv us ul => exact secHandle_fcb s fc fcb fcv us ul last hJ
  | out d =>
    refine ite_ind (P := StepOkB last) (fun hf => ⟨last, rfl, fun x hx => ?_, hJ.ghost⟩) fun _ => ⟨last, rfl, hJ⟩
    exact (List.mem_append.1 hx).elim (hJ.outOk x) fun hx => List.mem_singleton.1 hx ▸ hf
  | test => exact ⟨last, rfl, hJ.outOk, hJ.ghost⟩

theorem runAllB_fcb : ∀ (ops : List BOp) (s : Bal) (last : Option (List Nat)), JB s last →
    ∃ last', trackAllB last (BOp.runAll s ops) = some last' := by
  intro ops
  induction ops with
  | nil => intro s last _; exact ⟨last, rfl⟩
  | cons op ops ih =>
    intro s last hJ
    obtain ⟨l1, t1, j1⟩ := applyB_fcb s op last hJ
    obtain ⟨l2, t2⟩ := ih (op.apply s).1 l1 j1
    exact ⟨l2, (trackAllB_append t1 _).trans t2⟩

theorem JB_init (l : LL) (other : Nat) : JB ({ ll := l, other := other } : Bal) none :=
  { outOk := (fun d h => by cases h)
    ghost := ⟨(by show (0 : Nat) ≠ 4; decide), fun _ => rfl⟩ }

end Iec.Link101
