import Iec.Model.Queues
/-
Refinement of the high-priority (reply) ring of cs104_slave.c (`Iec.Queues.HpQueue`, byte offsets,
three pointers, association memory) to a FIFO list.

Layout invariant `HpInv q up low`: the queued entries, oldest first, are `up ++ low`; `up` lies back to
back from `first` up to `lib` (the entry with the highest offset), `low` - present once the ring has
wrapped - lies back to back from offset 0 and ends at or below `first`.
-/
namespace Iec.Queues

abbrev HpEntry := Nat × List Nat

/-- entries laid out back to back from offset `o` -/
def Chain : Nat → List HpEntry → Prop
  | _, [] => True
  | o, x :: rest => x.1 = o ∧ Chain (o + 2 + x.2.length) rest

/-- offset just behind a chain that starts at `o` -/
def chainEnd : Nat → List HpEntry → Nat
  | o, [] => o
  | o, x :: rest => chainEnd (o + 2 + x.2.length) rest

def lastOff (xs : List HpEntry) : Nat := (xs.getLast?.map (·.1)).getD 0

theorem chainEnd_append (o : Nat) (xs ys : List HpEntry) : chainEnd o (xs ++ ys) = chainEnd (chainEnd o xs) ys := by
  induction xs generalizing o with
  | nil => rfl
  | cons x xs ih => simp [chainEnd, ih]

theorem chain_append (o : Nat) (xs ys : List HpEntry) : Chain o (xs ++ ys) ↔ Chain o xs ∧ Chain (chainEnd o xs) ys := by
  induction xs generalizing o with
  | nil => simp [Chain, chainEnd]
  | cons x xs ih => simp [Chain, chainEnd, ih, and_assoc]

theorem chain_bounds (o : Nat) (xs : List HpEntry) (h : Chain o xs) :
    o ≤ chainEnd o xs ∧ ∀ x ∈ xs, o ≤ x.1 ∧ x.1 + 2 + x.2.length ≤ chainEnd o xs := by
  induction xs generalizing o with
  | nil => simp [chainEnd]
  | cons x xs ih =>
    obtain ⟨h1, h2⟩ := ih _ h.2
    refine ⟨by simp only [chainEnd]; omega, fun y hy => ?_⟩
    rcases List.mem_cons.mp hy with rfl | hy
    · exact ⟨by rw [h.1]; omega, by rw [h.1]; exact h1⟩
    · exact ⟨by have := (h2 y hy).1; omega, (h2 y hy).2⟩

theorem chainEnd_snoc (o : Nat) (xs : List HpEntry) (x : HpEntry) :
    chainEnd o (xs ++ [x]) = chainEnd o xs + 2 + x.2.length := by
  rw [chainEnd_append]; rfl

theorem chain_snoc (o : Nat) (xs : List HpEntry) (x : HpEntry) : Chain o (xs ++ [x]) ↔ Chain o xs ∧ x.1 = chainEnd o xs := by
  simp [chain_append, Chain]

theorem lastOff_snoc (xs : List HpEntry) (x : HpEntry) : lastOff (xs ++ [x]) = x.1 := by simp [lastOff]

theorem hsnoc_of_ne {α} {l : List α} (h : l ≠ []) : ∃ L z, l = L ++ [z] :=
  ⟨_, _, (List.dropLast_concat_getLast h).symm⟩

theorem lastOff_append (xs ys : List HpEntry) (h : ys ≠ []) : lastOff (xs ++ ys) = lastOff ys := by
  obtain ⟨L, z, rfl⟩ := hsnoc_of_ne h
  rw [← List.append_assoc, lastOff_snoc, lastOff_snoc]

theorem chainEnd_eq_last (o : Nat) (xs : List HpEntry) (h : Chain o xs) (hne : xs ≠ []) :
    ∃ z ∈ xs, lastOff xs = z.1 ∧ chainEnd o xs = z.1 + 2 + z.2.length ∧ o ≤ z.1 := by
  obtain ⟨L, z, rfl⟩ := hsnoc_of_ne hne
  rw [chain_snoc] at h
  exact ⟨z, by simp, lastOff_snoc L z, by rw [chainEnd_snoc, h.2], h.2 ▸ (chain_bounds o L h.1).1⟩

theorem dataAt_put (q : HpQueue) (np : Nat) (d : List Nat) (fl : Option Nat) (la : Option Nat) (li : Option Nat) (c : Nat) :
    let q' : HpQueue := { q with first := fl, last := la, lib := li, count := c,
                                 mem := (np, d) :: q.mem.filter fun b => !(np ≤ b.1 && b.1 < np + (2 + d.length)) }
    q'.dataAt np = d ∧ ∀ o, (o < np ∨ np + (2 + d.length) ≤ o) → q'.dataAt o = q.dataAt o := by
  intro q'
  refine ⟨by simp [HpQueue.dataAt, q'], fun o ho => ?_⟩
  have hne : (np == o) = false := by simp; omega
  simp only [HpQueue.dataAt, q', List.find?_cons, hne, List.find?_filter]
  congr 3; funext b
  by_cases hb : b.1 = o
  · simp [hb]; omega
  · simp [hb]

/-- `size`: 252 = 2 + 250, the largest accepted reply fits into the empty ring -/
structure HpInv (q : HpQueue) (up low : List HpEntry) : Prop where
  size : 252 ≤ q.size
  count : q.count = up.length + low.length
  data : ∀ x ∈ up ++ low, q.dataAt x.1 = x.2
  lowup : up = [] → low = []
  upper : ∀ u0 rest, up = u0 :: rest →
    q.first = some u0.1 ∧ Chain u0.1 up ∧ chainEnd u0.1 up ≤ q.size ∧ q.lib = some (lastOff up)
  lastU : up ≠ [] → low = [] → q.last = some (lastOff up)
  lower : ∀ l0 rest, low = l0 :: rest →
    Chain 0 low ∧ q.last = some (lastOff low) ∧ ∀ u0 r, up = u0 :: r → chainEnd 0 low ≤ u0.1

/-- an empty ring: pointers are stale, nothing is claimed about them -/
theorem HpInv.nil {q : HpQueue} (hs : 252 ≤ q.size) (hc : q.count = 0) : HpInv q [] [] :=
  { size := hs, count := hc, data := by simp, lowup := fun _ => rfl, upper := nofun, lastU := by simp, lower := nofun }

theorem HpInv.empty (n : Nat) (hn : 1 ≤ n) : HpInv (HpQueue.create n) [] [] :=
  .nil (by simp [HpQueue.create]; omega) rfl

theorem HpInv.count_eq_zero {q : HpQueue} {up low : List HpEntry} (h : HpInv q up low) :
    q.count = 0 ↔ up = [] ∧ low = [] := by
  rw [h.count]
  constructor
  · intro hc; exact ⟨List.eq_nil_of_length_eq_zero (by omega), List.eq_nil_of_length_eq_zero (by omega)⟩
  · rintro ⟨rfl, rfl⟩; rfl

theorem HpInv.ne_iff {q : HpQueue} {up low : List HpEntry} (hne : up ≠ []) :
    HpInv q up low ↔ 252 ≤ q.size ∧ q.count = up.length + low.length ∧ (∀ x ∈ up ++ low, q.dataAt x.1 = x.2) ∧
      ∃ f, q.first = some f ∧ Chain f up ∧ chainEnd f up ≤ q.size ∧ q.lib = some (lastOff up) ∧
        q.last = some (lastOff (up ++ low)) ∧ Chain 0 low ∧ (low ≠ [] → chainEnd 0 low ≤ f) := by
  obtain ⟨u0, rest, rfl⟩ := List.exists_cons_of_ne_nil hne
  constructor
  · intro h
    obtain ⟨hf, hc, he, hl⟩ := h.upper u0 rest rfl
    refine ⟨h.size, h.count, h.data, u0.1, hf, hc, he, hl, ?_⟩
    cases low with
    | nil => exact ⟨by rw [List.append_nil]; exact h.lastU hne rfl, trivial, absurd rfl⟩
    | cons l0 lrest =>
      obtain ⟨hlc, hla, hle⟩ := h.lower l0 lrest rfl
      exact ⟨by rw [lastOff_append _ _ (by simp)]; exact hla, hlc, fun _ => hle u0 rest rfl⟩
  · rintro ⟨hsize, hcount, hdata, f, hf, hc, he, hl, hla, hlc, hle⟩
    obtain rfl : u0.1 = f := hc.1
    refine { size := hsize, count := hcount, data := hdata, lowup := fun h' => absurd h' hne, upper := ?_, lastU := ?_, lower := ?_ }
    · intro a b hab; cases hab; exact ⟨hf, hc, he, hl⟩
    · intro _ h'; subst h'; rw [hla, List.append_nil]
    · intro a b hab
      refine ⟨hab ▸ hlc, by rw [hla, lastOff_append _ _ (by simp [hab])], ?_⟩
      intro a' b' hab'; cases hab'; exact hle (by simp [hab])

/-- queued replies, oldest first -/
def HpInv.abs (up low : List HpEntry) : List (List Nat) := (up ++ low).map Prod.snd

theorem getNext_empty (q : HpQueue) (up low : List HpEntry) (h : HpInv q up low) (hup : up = []) : q.getNext = (q, none) := by
  simp [HpQueue.getNext, h.count_eq_zero.mpr ⟨hup, h.lowup hup⟩]

theorem getNext_refines (q : HpQueue) (u0 : HpEntry) (rest low : List HpEntry) (h : HpInv q (u0 :: rest) low) :
    ∃ q', q.getNext = (q', some u0.2) ∧ (rest ≠ [] → HpInv q' rest low) ∧ (rest = [] → HpInv q' low []) := by
  obtain ⟨hsize, hcount, hdata, f, hf, ⟨rfl, hc⟩, he, hl, hla, hlc, hle⟩ := (HpInv.ne_iff (by simp)).mp h
  have hpos : q.count > 0 := by rw [hcount, List.length_cons]; omega
  have hcount' : q.count - 1 = rest.length + low.length := by rw [hcount, List.length_cons]; omega
  have hd : q.dataAt u0.1 = u0.2 := hdata u0 (by simp)
  have hdata' : ∀ x ∈ rest ++ low, q.dataAt x.1 = x.2 := fun x hx => hdata x (List.mem_cons_of_mem _ hx)
  unfold HpQueue.getNext
  simp only [hpos, if_true, hf, Option.getD_some, hd]
  refine ⟨_, rfl, fun hr => ?_, ?_⟩
  · obtain ⟨z, _, hz, hze, hzo⟩ := chainEnd_eq_last _ rest hc hr
    rw [show u0 :: rest = [u0] ++ rest from rfl, lastOff_append _ _ hr] at hl
    rw [show (u0 :: rest) ++ low = [u0] ++ (rest ++ low) from rfl, lastOff_append _ _ (by simp [hr])] at hla
    have hcpos : q.count - 1 > 0 := by rw [hcount']; exact Nat.add_pos_left (List.length_pos_iff.mpr hr) _
    have hnlast : ¬ some u0.1 = q.last := by
      rw [hla]
      by_cases hlow : low = []
      · subst hlow; rw [List.append_nil, hz]; simp; omega
      · obtain ⟨zz, _, hzz, hzze, _⟩ := chainEnd_eq_last 0 low hlc hlow
        have := hle hlow
        rw [lastOff_append _ _ hlow, hzz]; simp; omega
    have hnlib : ¬ some u0.1 = some (lastOff rest) := by rw [hz]; simp; omega
    simp only [hcpos, if_true, beq_iff_eq, hnlast, if_false, hl, hnlib]
    exact (HpInv.ne_iff hr).mpr ⟨hsize, hcount', hdata', _, rfl, hc, he, rfl, hla, hlc,
      fun hlow => Nat.le_trans (hle hlow) (by omega)⟩
  · rintro rfl
    by_cases hlow : low = []
    · subst hlow
      simp only [show q.count - 1 = 0 from hcount', Nat.lt_irrefl, if_false]
      exact .nil hsize rfl
    · obtain ⟨zz, _, hzz, hzze, _⟩ := chainEnd_eq_last 0 low hlc hlow
      have hle := hle hlow
      rw [lastOff_append _ _ hlow] at hla
      have hcpos : q.count - 1 > 0 := by rw [hcount']; exact Nat.add_pos_right _ (List.length_pos_iff.mpr hlow)
      have hne : ¬ some u0.1 = some (lastOff low) := by rw [hzz]; simp; omega
      simp only [hcpos, if_true, hla, show q.lib = some u0.1 from hl, beq_iff_eq, hne, if_false]
      simp only [chainEnd] at he
      exact (HpInv.ne_iff hlow).mpr ⟨hsize, by simpa using hcount',
        fun x hx => hdata' x (by simpa using hx), 0, rfl, hlc, by show _ ≤ q.size; omega, rfl,
        by rw [List.append_nil], trivial, absurd rfl⟩

/-- the write of `HighPriorityASDUQueue_enqueue` at position `np` -/
def HpQueue.write (q : HpQueue) (np : Nat) (d : List Nat) : HpQueue :=
  { q with last := some np, count := q.count + 1,
           mem := (np, d) :: q.mem.filter fun b => !(np ≤ b.1 && b.1 < np + (2 + d.length)) }

theorem write_dataAt (q : HpQueue) (np : Nat) (d : List Nat) :
    (q.write np d).dataAt np = d ∧ ∀ o, (o < np ∨ np + (2 + d.length) ≤ o) → (q.write np d).dataAt o = q.dataAt o := by
  have := dataAt_put q np d q.first (some np) q.lib (q.count + 1)
  simpa [HpQueue.write] using this

theorem enqueue_empty (q : HpQueue) (d : List Nat) (hd : d.length ≤ 250) (hc : q.count = 0) (hs : 252 ≤ q.size) :
    q.enqueue d = (({ q with first := some 0, lib := some 0 } : HpQueue).write 0 d, true) := by
  have h1 : ¬ (d.length > 250) := by omega
  have h2 : ¬ (q.size < 2 + d.length) := by omega
  simp [HpQueue.enqueue, h1, hc, h2, HpQueue.write]

/-- `l`, `f`: the offsets of the newest and the oldest entry; `np`: the position behind the newest entry -/
theorem enqueue_nonempty (q : HpQueue) (d : List Nat) (hd : d.length ≤ 250) (hc : q.count > 0) (l f np : Nat)
    (hl : q.last = some l) (hf : q.first = some f) (hnp : l + 2 + (q.dataAt l).length = np) :
    q.enqueue d =
      (if np + (2 + d.length) > q.size then
        if l < f then (q, false)
        else if 2 + d.length > f then ({ q with lib := q.last }, false)
        else (({ q with lib := q.last } : HpQueue).write 0 d, true)
      else if np ≤ f then
        if np + (2 + d.length) > f then (q, false) else (q.write np d, true)
      else (({ q with lib := some np } : HpQueue).write np d, true)) := by
  have h1 : ¬ (d.length > 250) := by omega
  have hc0 : ¬ (q.count = 0) := by omega
  by_cases hw : np + (2 + d.length) > q.size
  · by_cases hlf : l < f
    · simp [HpQueue.enqueue, h1, hc0, hl, hf, hc, hnp, hw, hlf]
    · by_cases hes : 2 + d.length > f
      · simp [HpQueue.enqueue, h1, hc0, hl, hf, hc, hnp, hw, hlf, hes]
      · simp [HpQueue.enqueue, HpQueue.write, h1, hc0, hl, hf, hc, hnp, hw, hlf, hes]
  · by_cases hnf : np ≤ f
    · by_cases hov : np + (2 + d.length) > f
      · simp [HpQueue.enqueue, h1, hc0, hl, hf, hc, hnp, hw, hnf, hov]
      · simp [HpQueue.enqueue, HpQueue.write, h1, hc0, hl, hf, hc, hnp, hw, hnf, hov]
    · simp [HpQueue.enqueue, HpQueue.write, h1, hc0, hl, hf, hc, hnp, hw, hnf]

theorem hp_place_up (q : HpQueue) (up : List HpEntry) (f : Nat) (d : List Nat) (hs : 252 ≤ q.size)
    (hcount : q.count = up.length) (hdata : ∀ x ∈ up, q.dataAt x.1 = x.2) (hfirst : q.first = some f)
    (hchain : Chain f up) (hfit : chainEnd f up + (2 + d.length) ≤ q.size) :
    HpInv (({ q with lib := some (chainEnd f up) } : HpQueue).write (chainEnd f up) d) (up ++ [(chainEnd f up, d)]) [] := by
  obtain ⟨hw1, hw2⟩ := write_dataAt { q with lib := some (chainEnd f up) } (chainEnd f up) d
  refine (HpInv.ne_iff (by simp)).mpr ⟨hs, by simp [HpQueue.write, hcount], ?_, f, hfirst, (chain_snoc ..).mpr ⟨hchain, rfl⟩,
    by rw [chainEnd_snoc]; show chainEnd f up + 2 + d.length ≤ q.size; omega, by rw [lastOff_snoc]; rfl, by rw [List.append_nil, lastOff_snoc]; rfl,
    trivial, absurd rfl⟩
  intro x hx
  rcases List.mem_append.mp (List.append_nil _ ▸ hx) with hx | hx
  · have := ((chain_bounds _ _ hchain).2 x hx).2
    rw [hw2 x.1 (Or.inl (by omega))]; exact hdata x hx
  · cases List.mem_singleton.mp hx; exact hw1

theorem hp_place_low (q : HpQueue) (up low : List HpEntry) (d : List Nat) (h : HpInv q up low) (hne : up ≠ [])
    (hfit : chainEnd 0 low + (2 + d.length) ≤ q.first.getD 0) :
    HpInv (q.write (chainEnd 0 low) d) up (low ++ [(chainEnd 0 low, d)]) := by
  obtain ⟨hw1, hw2⟩ := write_dataAt q (chainEnd 0 low) d
  obtain ⟨hs, hcount, hdata, f, hfirst, hchain, he, hlib, _, hlc, _⟩ := (HpInv.ne_iff hne).mp h
  rw [hfirst, Option.getD_some] at hfit
  refine (HpInv.ne_iff hne).mpr ⟨hs, by simp [HpQueue.write, hcount]; omega, ?_, f, hfirst, hchain, he, hlib,
    by rw [← List.append_assoc, lastOff_snoc]; rfl, (chain_snoc ..).mpr ⟨hlc, rfl⟩, fun _ => by rw [chainEnd_snoc]; show chainEnd 0 low + 2 + d.length ≤ f; omega⟩
  intro x hx
  rcases List.mem_append.mp hx with hx | hx
  · have := ((chain_bounds _ _ hchain).2 x hx).1
    rw [hw2 x.1 (Or.inr (by omega))]; exact hdata x (List.mem_append_left _ hx)
  · rcases List.mem_append.mp hx with hx | hx
    · have := ((chain_bounds _ _ hlc).2 x hx).2
      rw [hw2 x.1 (Or.inl (by omega))]; exact hdata x (List.mem_append_right _ hx)
    · cases List.mem_singleton.mp hx; exact hw1

/-- a refused reply leaves the queued replies as they are (the ring may have moved `lib`); an accepted one is
appended at some offset `o` -/
theorem enqueue_cases (q : HpQueue) (up low : List HpEntry) (h : HpInv q up low) (d : List Nat) :
    (∃ q', q.enqueue d = (q', false) ∧ HpInv q' up low) ∨
    (∃ q' up' low' o, q.enqueue d = (q', true) ∧ HpInv q' up' low' ∧ up' ++ low' = up ++ low ++ [(o, d)]) := by
  by_cases hbig : d.length > 250
  · exact .inl ⟨q, by simp [HpQueue.enqueue, hbig], h⟩
  have hd : d.length ≤ 250 := by omega
  by_cases hup : up = []
  · obtain ⟨rfl, rfl⟩ : up = [] ∧ low = [] := ⟨hup, h.lowup hup⟩
    refine .inr ⟨_, _, _, _, enqueue_empty q d hd (h.count_eq_zero.mpr ⟨rfl, rfl⟩) h.size,
      hp_place_up { q with first := some 0 } [] 0 d h.size h.count (by simp) rfl trivial ?_, rfl⟩
    have := h.size
    show 0 + _ ≤ q.size; omega
  · obtain ⟨hs, hcount, hdata, f, hfirst, hchain, he, hlib, hlast, hlc, hle⟩ := (HpInv.ne_iff hup).mp h
    have hcnt : q.count > 0 := Nat.pos_of_ne_zero fun hc => hup (h.count_eq_zero.mp hc).1
    obtain ⟨z, hz, hzl, hze, hzf⟩ := chainEnd_eq_last f up hchain hup
    by_cases hlow : low = []
    · subst hlow
      rw [List.append_nil] at hlast hdata
      have hrelib : HpInv { q with lib := q.last } up [] :=
        (HpInv.ne_iff hup).mpr ⟨hs, hcount, by rw [List.append_nil]; exact hdata, f, hfirst, hchain, he, hlast,
          by rw [List.append_nil]; exact hlast, trivial, hle⟩
      rw [enqueue_nonempty q d hd hcnt _ f (chainEnd f up) hlast hfirst (by rw [hzl, hdata z hz, hze])]
      by_cases hw : chainEnd f up + (2 + d.length) > q.size
      · rw [if_pos hw, if_neg (show ¬ lastOff up < f by omega)]
        by_cases hes : 2 + d.length > f
        · rw [if_pos hes]; exact .inl ⟨_, rfl, hrelib⟩
        · rw [if_neg hes]
          exact .inr ⟨_, _, _, chainEnd 0 [], rfl, hp_place_low _ up [] d hrelib hup
            (by rw [show ({ q with lib := q.last } : HpQueue).first = _ from hfirst]; show 0 + _ ≤ f; omega), by simp⟩
      · have := (chain_bounds f up hchain).1
        rw [if_neg hw, if_neg (show ¬ chainEnd f up ≤ f by omega)]
        exact .inr ⟨_, _, _, chainEnd f up, rfl, hp_place_up q up f d hs hcount hdata hfirst hchain (by omega), by simp⟩
    · obtain ⟨zz, hzz, hzzl, hzze, _⟩ := chainEnd_eq_last 0 low hlc hlow
      have hle := hle hlow
      rw [lastOff_append _ _ hlow] at hlast
      rw [enqueue_nonempty q d hd hcnt _ f (chainEnd 0 low) hlast hfirst
        (by rw [hzzl, hdata zz (List.mem_append_right _ hzz), hzze])]
      by_cases hw : chainEnd 0 low + (2 + d.length) > q.size
      · rw [if_pos hw, if_pos (show lastOff low < f by omega)]; exact .inl ⟨_, rfl, h⟩
      · rw [if_neg hw, if_pos hle]
        by_cases hov : chainEnd 0 low + (2 + d.length) > f
        · rw [if_pos hov]; exact .inl ⟨_, rfl, h⟩
        · rw [if_neg hov]
          exact .inr ⟨_, _, _, chainEnd 0 low, rfl, hp_place_low q up low d h hup (by rw [hfirst]; show _ ≤ f; omega), by simp⟩

theorem enqueue_refines (q : HpQueue) (up low : List HpEntry) (h : HpInv q up low) (d : List Nat) :
    ((q.enqueue d).2 = true → ∃ up' low', HpInv (q.enqueue d).1 up' low' ∧ HpInv.abs up' low' = HpInv.abs up low ++ [d]) ∧
    ((q.enqueue d).2 = false → HpInv (q.enqueue d).1 up low) := by
  rcases enqueue_cases q up low h d with ⟨q', he, hi⟩ | ⟨q', up', low', o, he, hi, hl⟩ <;> rw [he]
  · exact ⟨nofun, fun _ => hi⟩
  · exact ⟨fun _ => ⟨up', low', hi, by simp [HpInv.abs, hl]⟩, nofun⟩

inductive HpOp where
  | enq (d : List Nat)
  | deq
  deriving Repr, DecidableEq

/-- ring after a history; `acc` = replies accepted so far, `out` = replies handed out so far (both in order) -/
def hpRun : HpQueue → List HpOp → HpQueue × List (List Nat) × List (List Nat)
  | q, [] => (q, [], [])
  | q, .enq d :: ops =>
    let r := q.enqueue d
    let t := hpRun r.1 ops
    (t.1, (if r.2 then [d] else []) ++ t.2.1, t.2.2)
  | q, .deq :: ops =>
    let r := q.getNext
    let t := hpRun r.1 ops
    (t.1, t.2.1, (match r.2 with | some d => [d] | none => []) ++ t.2.2)

theorem hp_fifo : ∀ (ops : List HpOp) (q : HpQueue) (up low : List HpEntry), HpInv q up low →
    ∃ up' low', HpInv (hpRun q ops).1 up' low' ∧
      HpInv.abs up low ++ (hpRun q ops).2.1 = (hpRun q ops).2.2 ++ HpInv.abs up' low' := by
  intro ops
  induction ops with
  | nil => intro q up low h; exact ⟨up, low, h, by simp [hpRun]⟩
  | cons op ops ih =>
    intro q up low h
    -- one operation: ring `q1`, accepted `a1`, handed out `o1`
    obtain ⟨q1, a1, o1, hrun, up1, low1, h1, e1⟩ : ∃ q1 a1 o1,
        hpRun q (op :: ops) = ((hpRun q1 ops).1, a1 ++ (hpRun q1 ops).2.1, o1 ++ (hpRun q1 ops).2.2) ∧
        ∃ up1 low1, HpInv q1 up1 low1 ∧ HpInv.abs up low ++ a1 = o1 ++ HpInv.abs up1 low1 := by
      cases op with
      | enq d =>
        obtain ⟨hacc, hrej⟩ := enqueue_refines q up low h d
        refine ⟨_, _, [], rfl, ?_⟩
        cases hr : (q.enqueue d).2 with
        | true => obtain ⟨up1, low1, h1, habs⟩ := hacc hr; exact ⟨up1, low1, h1, habs.symm⟩
        | false => exact ⟨up, low, hrej hr, List.append_nil _⟩
      | deq =>
        cases up with
        | nil => exact ⟨q, [], [], by simp only [hpRun, getNext_empty q [] low h rfl]; rfl, [], low, h, List.append_nil _⟩
        | cons u0 rest =>
          obtain ⟨q', hg, hne, hnil⟩ := getNext_refines q u0 rest low h
          refine ⟨q', [], [u0.2], by simp only [hpRun, hg]; rfl, ?_⟩
          by_cases hr : rest = []
          · subst hr; exact ⟨low, [], hnil rfl, by simp [HpInv.abs]⟩
          · exact ⟨rest, low, hne hr, by simp [HpInv.abs]⟩
    obtain ⟨up2, low2, h2, e2⟩ := ih q1 up1 low1 h1
    rw [hrun]
    exact ⟨up2, low2, h2, by rw [← List.append_assoc, e1, List.append_assoc, e2, List.append_assoc]⟩

end Iec.Queues
