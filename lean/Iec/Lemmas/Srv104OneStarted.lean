/-
At most one started connection per redundancy group after every history of the server model (C08).  No atom of the
per-connection work other than `activate` makes a connection started (`CShrink`), and `activate` first deactivates the
other connections of the group.
-/
import Iec.Lemmas.Srv104Hist
namespace Iec.Srv104
open Iec.KWindow Iec.Queues

/-- connections `a` and `b` serve the same redundancy group (never in connection-is-group mode) -/
def sameGroup (s : Slave) (a b : Nat) : Prop :=
  s.p.mode = 0 ∨ (s.p.mode = 2 ∧ (s.conn a).group = (s.conn b).group)

def OneStarted (s : Slave) : Prop :=
  ∀ a b, a ≠ b → (s.conn a).isUsed = true → (s.conn a).state = 1 → (s.conn b).isUsed = true → (s.conn b).state = 1 →
    ¬ sameGroup s a b

def CShrink (c c' : Conn) : Prop :=
  c'.isUsed = true → c'.state = 1 → (c.isUsed = true ∧ c.state = 1 ∧ c'.group = c.group)

theorem CShrink.refl (c : Conn) : CShrink c c := fun hu hs => ⟨hu, hs, rfl⟩
theorem CShrink.trans {a b c : Conn} (h1 : CShrink a b) (h2 : CShrink b c) : CShrink a c := by
  intro hu hs
  obtain ⟨u, s, g⟩ := h2 hu hs
  obtain ⟨u', s', g'⟩ := h1 u s
  exact ⟨u', s', g.trans g'⟩

abbrev Shrink : Slave → Slave → Prop := PerConn fun _ => CShrink

theorem Shrink.refl (s : Slave) : Shrink s s := PerConn.refl (fun _ => CShrink.refl) s
theorem Shrink.trans {a b c : Slave} (h1 : Shrink a b) (h2 : Shrink b c) : Shrink a c :=
  PerConn.trans (C := fun _ => CShrink) (fun _ _ _ _ => CShrink.trans) h1 h2

theorem cshrink_freed (c : Conn) : CShrink c { c with isUsed := false, state := 0 } := fun hu _ => by simp at hu

theorem shrink_frame (K : Caps) (i : Nat) (ha : ¬ K.actv) : Frame K i fun _ => CShrink where
  refl _ := CShrink.refl
  trans _ _ _ _ := CShrink.trans
  upd u := by
    cases u with
    | halted _ => exact fun _ hs => by simp at hs
    | _ => exact CShrink.refl _
  sendI _ _ _ _ _ _ := ⟨CShrink.refl _, CShrink.refl _⟩
  deact _ _ := fun _ hs => by simp at hs
  actv h := absurd h ha
  count _ _ := CShrink.refl _

theorem inv_shrink {s s' : Slave} (h : OneStarted s) (hs : Shrink s s') : OneStarted s' := by
  intro a b hab ua sa ub sb hg
  obtain ⟨ua', sa', ga⟩ := hs.conn a ua sa
  obtain ⟨ub', sb', gb⟩ := hs.conn b ub sb
  refine h a b hab ua' sa' ub' sb' ?_
  unfold sameGroup at hg ⊢
  rw [hs.p, ga, gb] at hg
  exact hg

def Keep (s s' : Slave) : Prop :=
  s'.p = s.p ∧ s'.conns.length = s.conns.length ∧
  ∀ j, (s'.conn j).isUsed = (s.conn j).isUsed ∧ (s'.conn j).group = (s.conn j).group ∧ ((s'.conn j).state = 1 → (s.conn j).state = 1)

theorem keep_shrink {s s' : Slave} (h : Keep s s') : Shrink s s' :=
  ⟨h.1, h.2.1, fun j hu hs => ⟨by rw [← (h.2.2 j).1]; exact hu, (h.2.2 j).2.2 hs, (h.2.2 j).2.1⟩⟩

theorem inv_activate (s : Slave) (i : Nat) (h : OneStarted s) : OneStarted (activate s i) := by
  have k : PerConn (fun j c c' => c'.isUsed = c.isUsed ∧ c'.group = c.group ∧ (j ≠ i → c'.state = 1 → c.state = 1)) s
      (activate s i) :=
    perConn_activate (fun _ _ => ⟨rfl, rfl, fun _ => id⟩)
      (fun _ _ _ _ h1 h2 => ⟨h2.1.trans h1.1, h2.2.1.trans h1.2.1, fun hj hs => h1.2.2 hj (h2.2.2 hj hs)⟩)
      (fun _ _ => ⟨rfl, rfl, fun _ hs => by simp at hs⟩) (fun _ => ⟨rfl, rfl, fun hj => absurd rfl hj⟩) s
  intro a b hab ua sa ub sb hg
  have hg : sameGroup s a b := by
    unfold sameGroup at hg ⊢
    rw [k.p, (k.conn a).2.1, (k.conn b).2.1] at hg
    exact hg
  rw [(k.conn a).1] at ua
  rw [(k.conn b).1] at ub
  have excl : ∀ x y, x = i → y ≠ i → (s.conn x).isUsed = true → (s.conn y).isUsed = true →
      ((activate s i).conn y).state = 1 → ¬ sameGroup s y x := fun x y hx hy ux uy sy hxy => by
    subst hx
    rw [(activate_exclusive s x (lt_of_used s x ux) y (lt_of_used s y uy) hy uy hxy).2] at sy
    cases sy
  by_cases hai : a = i
  · exact excl a b hai (fun hb => hab (hai.trans hb.symm)) ua ub sb (hg.imp id fun h2 => ⟨h2.1, h2.2.symm⟩)
  · by_cases hbi : b = i
    · exact excl b a hbi hai ub ua sa hg
    · exact h a b hab ua ((k.conn a).2.2 hai sa) ub ((k.conn b).2.2 hbi sb) hg

theorem inv_atom {K : Caps} {i : Nat} {s t : Slave} (h : OneStarted s) (a : Atom K i s t) : OneStarted t := by
  rcases a.actv_or with ⟨_, rfl⟩ | a
  · exact inv_activate s i h
  · exact inv_shrink h (a.perConn (shrink_frame _ i id))

theorem inv_handleMessage (s : Slave) (i : Nat) (buf : List Nat) (h : OneStarted s) : OneStarted (handleMessage s i buf).1 := by
  rcases steps_handleMessage (i := i) s buf with st | st <;> exact st.inv (fun _ _ ht a => inv_atom ht a) h

theorem inv_handleClientConnections (s : Slave) (h : OneStarted s) : OneStarted (handleClientConnections s) :=
  hcc_inv (fun _ _ _ _ ht a => inv_atom ht a) (fun t j _ ht => inv_shrink ht (.reap (fun _ => CShrink.refl) t j (cshrink_freed _))) s h

theorem shrink_accept (s : Slave) : Shrink s (accept s) :=
  .accept (fun _ => CShrink.refl) s fun _ _ _ _ _ _ _ _ hs => by simp [Conn.opened] at hs

/-- what the environment does between two calls; for this invariant it may be anything that leaves used / state / group
of every slot alone -/
structure EnvOp where
  f : Slave → Slave
  keep : ∀ s, Keep s (f s)

inductive SOp where
  | tick
  | enqueue (asdu : List Nat)
  | restart
  | env (e : EnvOp)

def SOp.apply (s : Slave) : SOp → Slave
  | .tick => Iec.Srv104.tick s
  | .enqueue a => Iec.Srv104.enqueue s a
  | .restart => Iec.Srv104.restart s
  | .env e => e.f s

theorem inv_apply (s : Slave) (op : SOp) (h : OneStarted s) : OneStarted (op.apply s) := by
  cases op with
  | tick => exact inv_handleClientConnections _ (inv_shrink h (shrink_accept s))
  | enqueue a => exact inv_shrink h (.of_conns (fun _ => CShrink.refl) rfl rfl)
  | restart => exact inv_shrink h (.restart (fun _ => CShrink.refl) s fun _ => cshrink_freed)
  | env e => exact inv_shrink h (keep_shrink (e.keep s))

theorem run_oneStarted (p : Params) (gs : List (String × List (Bool × List Nat))) (ops : List SOp) :
    OneStarted (ops.foldl SOp.apply (create p gs)) :=
  p_foldl _ inv_apply ops _ fun a _ _ ua => by rw [create_conn] at ua; cases ua

end Iec.Srv104
