/-
Every reply ring (high-priority queue) of the server is well-formed in every reachable state: the layout invariant `HpInv`
of the ring refinement (Lemmas/HpQueue.lean) holds after every history of a server created with room for at least one
reply, so `hp_fifo` and the other reply-ring theorems of C13 apply to reachable states without a hypothesis.  Every ring
operation of the server (`QOps`) keeps the invariant; `run_groups` does the rest.
-/
import Iec.Lemmas.Srv104Groups
import Iec.Lemmas.HpQueueWf
namespace Iec.Srv104
open Iec.Queues

def HOk (q : HpQueue) : Prop := HWf q

def HInv (s : Slave) : Prop := ∀ g, HOk (s.grp g).highQ

structure HR (s s' : Slave) : Prop where
  imp : HInv s → HInv s'

theorem hr_of_conns {s s' : Slave} (_ : s'.p = s.p) (_ : s'.conns = s.conns) (hg : s'.groups = s.groups) : HR s s' :=
  ⟨fun h g => by unfold Slave.grp; rw [hg]; exact h g⟩

theorem QOps.hok {wipe : Prop} {R : List (Nat × Nat)} {g g' : Group} (h : QOps wipe R g g') (hq : HOk g.highQ) :
    HOk g'.highQ := by
  induction h with
  | trans _ _ ih1 ih2 => exact ih2 (ih1 hq)
  | upd u =>
    cases u with
    | park a => exact hwf_enqueue _ a hq
    | unpark => exact hwf_getNext _ hq
    | flush => exact hwf_reset _ hq
    | fetch => exact hq
  | _ => exact hq

def HGOk (s : Slave) : Prop := 1 ≤ s.p.highQ ∧ HInv s

theorem run_hgok (p : Params) (gs : List (String × List (Bool × List Nat))) (hq : 1 ≤ p.highQ) (ops : List WOp) :
    HGOk (ops.foldl WOp.apply (create p gs)) :=
  have ⟨hp, hg⟩ := run_groups (Q := fun x => HOk x.highQ) QOps.hok (hwf_create 1 (Nat.le_refl 1)) (fun _ _ h => h) p gs
    (fun _ => hwf_create _ hq) ops
  ⟨by rw [hp]; exact hq, hg⟩

end Iec.Srv104
