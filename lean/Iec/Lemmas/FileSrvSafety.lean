import Iec.Lemmas.FileSrv
import Iec.Lemmas.FileSrvCases
/-
Safety of the download for ARBITRARY histories (any requests in any order on any connection,
any clock): an invariant that couples the server state with what a procedure-following
master has reassembled from the messages sent so far (`Rx`, Iec.Lemmas.FileSrv).
The handlers of the upload direction only frame it (`KeepsDl`, `Good.frame`); the work is in
`runTask`, `onAck` and `onCallSel`.
-/
namespace Iec.FileSrv

def rxFold (r : Rx) (outs : List Out) : Rx := outs.foldl rxStep r

/-- At most 254 sections: the section number is a `uint8_t` (file_server.c:62) and LAST SECTION carries the count
plus one.  None empty: a section of size 0 reads as the end of the file (`onAck`). -/
structure FileOk (e : Env) : Prop where
  count : e.file.length ≤ 254
  sections : ∀ sec ∈ e.file, sec ≠ []

/-- in every state of a download the master's reassembly buffer agrees with the server's progress through the file -/
structure Good (e : Env) (s : Srv) (r : Rx) : Prop where
  dl : s.st = .waitSectionCall ∨ s.st = .transmit ∨ s.st = .waitSectionAck →
    1 ≤ s.secNo ∧ r.curNo = s.secNo ∧ r.done = (e.file.take (s.secNo - 1)).flatten
  wsc : s.st = .waitSectionCall → r.cur = []
  tr : s.st = .transmit ∨ s.st = .waitSectionAck →
    s.secNo ≤ e.file.length ∧ s.secSize = (secAt e.file s.secNo).length ∧ s.secOff ≤ s.secSize ∧
      r.cur = (secAt e.file s.secNo).take s.secOff
  wsa : s.st = .waitSectionAck → s.secOff = s.secSize
  wfa : s.st = .waitFileAck → r.done = e.file.flatten ∧ r.cur = []
  wfc : s.st = .waitFileCall → r = ⟨[], [], 0⟩

/-- states in which no download is in progress: nothing is claimed -/
def Inert (st : St) : Prop :=
  st = .idle ∨ st = .sendAbort ∨ st = .completed ∨ st = .waitSectionReady ∨ st = .receiveSection

theorem good_iff {e : Env} {s : Srv} {r : Rx} {t : St} : s.st = t → (Good e s r ↔
    match t with
    | .waitFileCall => r = ⟨[], [], 0⟩
    | .waitSectionCall =>
      (1 ≤ s.secNo ∧ r.curNo = s.secNo ∧ r.done = (e.file.take (s.secNo - 1)).flatten) ∧ r.cur = []
    | .transmit =>
      (1 ≤ s.secNo ∧ r.curNo = s.secNo ∧ r.done = (e.file.take (s.secNo - 1)).flatten) ∧
      s.secNo ≤ e.file.length ∧ s.secSize = (secAt e.file s.secNo).length ∧ s.secOff ≤ s.secSize ∧
        r.cur = (secAt e.file s.secNo).take s.secOff
    | .waitSectionAck =>
      (1 ≤ s.secNo ∧ r.curNo = s.secNo ∧ r.done = (e.file.take (s.secNo - 1)).flatten) ∧
      (s.secNo ≤ e.file.length ∧ s.secSize = (secAt e.file s.secNo).length ∧ s.secOff ≤ s.secSize ∧
        r.cur = (secAt e.file s.secNo).take s.secOff) ∧ s.secOff = s.secSize
    | .waitFileAck => r.done = e.file.flatten ∧ r.cur = []
    | _ => True) := by
  intro hs; subst hs
  constructor
  · intro g
    split
    · next h => exact g.wfc h
    · next h => exact ⟨g.dl (.inl h), g.wsc h⟩
    · next h => exact ⟨g.dl (.inr (.inl h)), g.tr (.inl h)⟩
    · next h => exact ⟨g.dl (.inr (.inr h)), g.tr (.inr h), g.wsa h⟩
    · next h => exact g.wfa h
    · trivial
  · intro h
    refine ⟨fun h' => ?_, fun h' => ?_, fun h' => ?_, fun h' => ?_, fun h' => ?_, fun h' => ?_⟩
    · rcases h' with h' | h' | h' <;> rw [h'] at h <;> exact h.1
    · rw [h'] at h; exact h.2
    · rcases h' with h' | h' <;> rw [h'] at h
      · exact h.2
      · exact h.2.1
    · rw [h'] at h; exact h.2.2
    · rw [h'] at h; exact h
    · rw [h'] at h; exact h

theorem Good.of_inert {e : Env} {s : Srv} {r : Rx} (h : Inert s.st) : Good e s r :=
  by rcases h with h | h | h | h | h <;> exact (good_iff h).mpr trivial

theorem Good.congr {e : Env} {s s' : Srv} {r : Rx} (g : Good e s r) (hst : s'.st = s.st) (hno : s'.secNo = s.secNo)
    (hoff : s'.secOff = s.secOff) (hsz : s'.secSize = s.secSize) : Good e s' r := by
  rw [good_iff rfl] at g; rwa [good_iff hst, hno, hoff, hsz]

theorem Good.expire {e : Env} {s : Srv} {r : Rx} (g : Good e s r) (now : Nat) : Good e (s.expire now) r := by
  unfold Srv.expire
  split
  · exact Good.of_inert (Or.inl rfl)
  · exact g

/-- messages a reassembling master ignores -/
def Quiet : Out → Prop
  | .send _ _ _ _ _ (.fileReady _ true) => False
  | .send _ _ _ _ _ (.sectionReady _ _) => False
  | .send _ _ _ _ _ (.segment _ _) => False
  | .send _ _ _ _ _ (.lastSection _ _) => False
  | _ => True

theorem rxStep_quiet (r : Rx) (o : Out) (h : Quiet o) : rxStep r o = r := by
  cases o with
  | send _ _ _ _ _ m =>
    cases m with
    | fileReady _ positive => cases positive; rfl; exact h.elim
    | sectionReady | segment | lastSection => exact h.elim
    | _ => rfl
  | _ => rfl

theorem rxFold_quiet (r : Rx) (outs : List Out) (h : ∀ o ∈ outs, Quiet o) : rxFold r outs = r := by
  induction outs generalizing r with
  | nil => rfl
  | cons o os ih =>
    simp only [rxFold, List.foldl_cons]
    rw [rxStep_quiet r o (h o (by simp))]
    exact ih r (fun o' ho' => h o' (by simp [ho']))

theorem Plain.quiet {o : Out} (h : Plain o) : Quiet o ∧ o ≠ .complete true := by
  unfold Plain at h; split at h <;> simp_all [Quiet]

/-- a step as the download sees it when it is not a move of the download: it sends nothing a reassembling
master reads, reports no success, and keeps the download bookkeeping or ends outside a download -/
structure KeepsDl (s : Srv) (res : Srv × List Out) : Prop where
  out : ∀ o ∈ res.2, Quiet o ∧ o ≠ .complete true
  st : (res.1.st = s.st ∧ res.1.secNo = s.secNo ∧ res.1.secOff = s.secOff ∧ res.1.secSize = s.secSize) ∨ Inert res.1.st

theorem KeepsDl.of_kept {s s' : Srv} {outs : List Out} (k : Kept s s') (hp : ∀ o ∈ outs, Plain o) : KeepsDl s (s', outs) :=
  ⟨fun o h => (hp o h).quiet, .inl ⟨k.st, k.secNo, k.secOff, k.secSize⟩⟩

theorem KeepsDl.of_inert {s s' : Srv} {outs : List Out} (h : Inert s'.st) (hp : ∀ o ∈ outs, Plain o) : KeepsDl s (s', outs) :=
  ⟨fun o h => (hp o h).quiet, .inr h⟩

theorem Good.frame {e : Env} {s : Srv} {r : Rx} {res : Srv × List Out} (g : Good e s r) (k : KeepsDl s res) :
    Good e res.1 (rxFold r res.2) := by
  rw [rxFold_quiet r _ (fun o h => (k.out o h).1)]
  rcases k.st with ⟨h1, h2, h3, h4⟩ | h
  · exact g.congr h1 h2 h3 h4
  · exact .of_inert h

theorem onFileReady_keepsDl (e : Env) (s : Srv) (conn now : Nat) (q : Req) : KeepsDl s (onFileReady e s conn now q) :=
  onFileReady_cases (P := fun s' outs => KeepsDl s (s', outs)) e s conn now q
    (fun _ hp => .of_kept .rfl hp)
    (fun _ _ _ => ⟨List.forall_mem_cons.mpr ⟨⟨trivial, nofun⟩, List.forall_mem_singleton.mpr ⟨trivial, nofun⟩⟩,
      .inr (by simp [Inert])⟩)
    (fun _ _ _ _ _ _ h1 h2 h3 h4 hp =>
      ⟨List.forall_mem_cons.mpr ⟨⟨trivial, nofun⟩, List.forall_mem_singleton.mpr hp.quiet⟩, .inl ⟨h1, h2, h3, h4⟩⟩)

theorem onSectionReady_keepsDl (s : Srv) (conn now : Nat) (q : Req) : KeepsDl s (onSectionReady s conn now q) := by
  unfold onSectionReady
  by_cases hst : s.st = .waitSectionReady
  · rw [if_pos hst]
    split
    · exact ⟨List.forall_mem_singleton.mpr ⟨trivial, nofun⟩, .inr (by simp [Inert])⟩
    · exact .of_kept .rfl (List.forall_mem_nil _)
  · rw [if_neg hst]; exact .of_kept .rfl (List.forall_mem_nil _)

theorem onSegment_keepsDl (s : Srv) (now : Nat) (q : Req) : KeepsDl s (onSegment s now q) := by
  unfold onSegment
  by_cases hst : s.st = .receiveSection
  · rw [if_pos hst]
    split
    · exact ⟨forall_mem_ite ⟨trivial, nofun⟩, .inr (.inr (.inr (.inr (.inr hst))))⟩
    · exact .of_kept .rfl (List.forall_mem_nil _)
  · rw [if_neg hst]; exact .of_kept .rfl (List.forall_mem_nil _)

theorem onLastSeg_keepsDl (s : Srv) (conn now : Nat) (q : Req) : KeepsDl s (onLastSeg s conn now q) :=
  onLastSeg_cases (P := fun s' outs => KeepsDl s (s', outs)) s conn now q
    (.of_kept .rfl (List.forall_mem_nil _))
    (fun _ h => ⟨forall_mem_ite ⟨trivial, nofun⟩, .inr (.inl h)⟩)
    (fun _ _ _ _ _ _ _ => ⟨List.forall_mem_singleton.mpr ⟨trivial, nofun⟩, .inr (by simp [Inert])⟩)
    (fun _ _ => ⟨List.forall_mem_singleton.mpr ⟨trivial, nofun⟩, .inr (by simp [Inert])⟩)
    (fun _ _ _ => ⟨List.forall_mem_append.mpr ⟨List.forall_mem_singleton.mpr ⟨trivial, nofun⟩, forall_mem_ite ⟨trivial, nofun⟩⟩,
      .inr (.inl rfl)⟩)

theorem getD_lt {α} (l : List α) (n : Nat) (d : α) (h : n < l.length) : l.getD n d = l[n] := by
  rw [List.getD_eq_getElem?_getD, List.getElem?_eq_getElem h]; rfl

theorem getD_ge {α} (l : List α) (n : Nat) (d : α) (h : l.length ≤ n) : l.getD n d = d := by
  rw [List.getD_eq_getElem?_getD, List.getElem?_eq_none h]; rfl

theorem secAt_pos {e : Env} (ok : FileOk e) (n : Nat) (h : 1 ≤ n) : 0 < (secAt e.file n).length ↔ n ≤ e.file.length := by
  unfold secAt
  constructor
  · intro hp
    by_cases hn : n - 1 < e.file.length
    · omega
    · rw [getD_ge _ _ _ (by omega)] at hp; simp at hp
  · intro hn
    have hlt : n - 1 < e.file.length := by omega
    rw [getD_lt _ _ _ hlt]
    exact List.length_pos_iff.mpr (ok.sections _ (List.getElem_mem hlt))

theorem flatten_take_succ (f : File) (n : Nat) (h : 1 ≤ n) (hn : n ≤ f.length) :
    (f.take (n - 1)).flatten ++ secAt f n = (f.take n).flatten := by
  unfold secAt
  have hlt : n - 1 < f.length := by omega
  have : f.take n = f.take (n - 1) ++ [f[n - 1]] := by
    have := List.take_add_one (l := f) (i := n - 1)
    rw [show n - 1 + 1 = n by omega] at this
    rw [this, List.getElem?_eq_getElem hlt]; rfl
  rw [getD_lt _ _ _ hlt, this]
  simp only [List.flatten_append, List.flatten_cons, List.flatten_nil, List.append_nil]

theorem rxFold_sectionReady (r : Rx) (c oa ca ioa nof n k : Nat) (h : n ≠ r.curNo) :
    rxFold r [.send c oa ca ioa nof (.sectionReady n k)] = ⟨r.done ++ r.cur, [], n⟩ := if_neg h

theorem rxFold_sectionReady_again (r : Rx) (c oa ca ioa nof n k : Nat) (h : n = r.curNo) :
    rxFold r [.send c oa ca ioa nof (.sectionReady n k)] = { r with cur := [] } := if_pos h

theorem pumpStep_good {e : Env} {s : Srv} {r : Rx} (g : Good e s r) (conn now : Nat) :
    Good e (pumpStep e s conn now).1 (rxFold r (pumpStep e s conn now).2) := by
  unfold pumpStep
  by_cases hp : s.st = .transmit ∧ s.selConn = some conn ∧ s.selected = true
  · rw [if_pos hp]
    obtain ⟨h1, hcur, hdone⟩ := g.dl (.inr (.inl hp.1))
    obtain ⟨hle, hsz, hoff, hrc⟩ := g.tr (.inl hp.1)
    dsimp only
    by_cases hleft : s.secSize - s.secOff > 0
    · -- a segment
      rw [if_pos hleft]
      refine (good_iff (t := .transmit) (by exact hp.1)).mpr ⟨⟨h1, hcur, hdone⟩, hle, hsz, ?_, ?_⟩
      · show s.secOff + _ ≤ s.secSize
        split <;> omega
      · show r.cur ++ _ = _
        rw [hrc, segData_secAt e.file s.secNo h1, List.take_add]
    · -- LAST SEGMENT
      rw [if_neg hleft]
      exact (good_iff rfl).mpr ⟨⟨h1, hcur, hdone⟩, ⟨hle, hsz, hoff, hrc⟩, by show s.secOff = s.secSize; omega⟩
  · rw [if_neg hp]; exact g

theorem runTask_good {e : Env} {s : Srv} {r : Rx} (g : Good e s r) (conn now : Nat) :
    Good e (runTask e s conn now).1 (rxFold r (runTask e s conn now).2) := by
  unfold runTask
  split
  · exact g
  · dsimp only
    split
    · exact .of_inert (.inl rfl)
    · exact pumpStep_good g conn now

theorem Good.pass_done {e : Env} {s : Srv} {r : Rx} (g : Good e s r) (hst : s.st = .waitSectionAck) :
    1 ≤ s.secNo ∧ r.curNo = s.secNo ∧ s.secNo ≤ e.file.length ∧ r.done ++ r.cur = (e.file.take s.secNo).flatten := by
  obtain ⟨h1, hcur, hdone⟩ := g.dl (.inr (.inr hst))
  obtain ⟨hle, hsz, -, hrc⟩ := g.tr (.inr hst)
  refine ⟨h1, hcur, hle, ?_⟩
  rw [hdone, hrc, g.wsa hst, hsz, List.take_length]
  exact flatten_take_succ e.file s.secNo h1 hle

theorem onAck_good {e : Env} (ok : FileOk e) {s : Srv} {r : Rx} (g : Good e s r) (conn now : Nat) (q : Req) :
    Good e (onAck e s conn now q).1 (rxFold r (onAck e s conn now q).2) := by
  refine onAck_cases (P := fun s' outs => Good e s' (rxFold r outs)) e s conn now q
    (fun outs hp => g.frame (.of_kept .rfl hp))
    (fun s' outs h hp => g.frame (.of_inert (h.elim .inl fun h => .inr (.inl h)) hp))
    (fun _ s' h => .of_inert (.inl h)) (fun hst => ?nack) (fun hst n hn hz => ?last) (fun hst n k hn hk hnz => ?next)
  case nack =>
    -- the master discards the pass, the server restarts the section
    obtain ⟨h1, hcur, hdone⟩ := g.dl (.inr (.inr hst))
    obtain ⟨hle, hsz, -, -⟩ := g.tr (.inr hst)
    rw [rxFold_sectionReady_again _ _ _ _ _ _ _ _ hcur.symm]
    exact (good_iff rfl).mpr ⟨⟨h1, hcur, hdone⟩, hle, hsz, Nat.zero_le _, rfl⟩
  all_goals
    -- the section joins the received octets
    obtain ⟨h1, hcur, hle, hjoin⟩ := g.pass_done hst
    have hn' : n = s.secNo + 1 := hn.trans (Nat.mod_eq_of_lt (by have := ok.count; omega))
    subst hn'
  case last =>
    rw [sectionSize_secAt e.file (s.secNo + 1) (by omega)] at hz
    have hall : e.file.take s.secNo = e.file :=
      List.take_of_length_le (by have := (secAt_pos ok (s.secNo + 1) (by omega)).mpr; omega)
    exact (good_iff rfl).mpr ⟨by show r.done ++ r.cur = _; rw [hjoin, hall], rfl⟩
  case next =>
    rw [rxFold_sectionReady _ _ _ _ _ _ _ _ (by omega)]
    exact (good_iff rfl).mpr ⟨⟨by show 1 ≤ s.secNo + 1; omega, rfl, by show r.done ++ r.cur = _; rw [hjoin]; rfl⟩, rfl⟩

theorem onCallSel_good {e : Env} (ok : FileOk e) {s : Srv} {r : Rx} (g : Good e s r) (conn now : Nat) (q : Req)
    (hneg : q.neg = false) :
    Good e (onCallSel e s conn now q).1 (rxFold r (onCallSel e s conn now q).2) := by
  refine onCallSel_cases (P := fun s' outs => Good e s' (rxFold r outs)) e s conn now q
    (fun s' outs k hp => g.frame (.of_kept k hp)) ?select (fun hst => ?callFile)
    (fun h => by rw [hneg] at h; cases h) (fun hst hpos => ?callSection)
  case select =>
    -- FILE READY (positive) starts the master's transfer
    intro _ s' pre c oa ca ioa nof lof hst' _
    rw [good_iff hst']
    simp only [rxFold, List.foldl_append, List.foldl_cons, List.foldl_nil, rxStep]
  case callFile =>
    rw [g.wfc hst, rxFold_sectionReady _ _ _ _ _ _ _ _ (by decide)]
    exact (good_iff rfl).mpr ⟨⟨Nat.le_refl 1, rfl, rfl⟩, rfl⟩
  case callSection =>
    obtain ⟨h1, hcur, hdone⟩ := g.dl (.inl hst)
    have hsz := sectionSize_secAt e.file s.secNo h1
    exact (good_iff rfl).mpr ⟨⟨h1, hcur, hdone⟩, (secAt_pos ok s.secNo h1).mp (by omega), hsz, Nat.zero_le _,
      by show r.cur = _; rw [g.wsc hst]; rfl⟩

/-- the master never declines a section (no negative CALL/SELECT request) -/
def NoDecline : Op → Prop
  | .asdu _ _ q => q.tid = 122 → q.neg = false
  | .task _ _ => True

theorem step_good {e : Env} (ok : FileOk e) {s : Srv} {r : Rx} (g : Good e s r) (op : Op) (hnd : NoDecline op) :
    Good e (step e s op).1 (rxFold r (step e s op).2) :=
  step_cases (P := fun res => Good e res.1 (rxFold r res.2)) op g (runTask_good g)
    (fun _ now _ => (g.expire now).frame (onFileReady_keepsDl ..))
    (fun _ now _ => (g.expire now).frame (onSectionReady_keepsDl ..))
    (fun now _ => (g.expire now).frame (onSegment_keepsDl ..))
    (fun _ now _ => (g.expire now).frame (onLastSeg_keepsDl ..))
    (fun conn now q => onAck_good ok (g.expire now) conn now q)
    (fun conn now q hop h => onCallSel_good ok (g.expire now) conn now q (by subst hop; exact hnd h))
    (fun now => g.expire now)

theorem runTask_out {e : Env} {s : Srv} {conn now : Nat} {o : Out} (h : o ∈ (runTask e s conn now).2) :
    ∃ n, (∃ d, o = s.send conn s.oa (.segment n d)) ∨ ∃ c, o = s.send conn s.oa (.lastSegment n c) := by
  unfold runTask at h
  by_cases hi : s.st = .idle
  · rw [if_pos hi] at h; exact (List.not_mem_nil h).elim
  · rw [if_neg hi] at h
    replace h : o ∈ (pumpStep e s conn now).2 := h
    unfold pumpStep at h
    by_cases hp : s.st = .transmit ∧ s.selConn = some conn ∧ s.selected = true
    · rw [if_pos hp] at h
      dsimp only at h
      by_cases hleft : s.secSize - s.secOff > 0
      · rw [if_pos hleft] at h; exact ⟨_, .inl ⟨_, List.mem_singleton.mp h⟩⟩
      · rw [if_neg hleft] at h; exact ⟨_, .inr ⟨_, List.mem_singleton.mp h⟩⟩
    · rw [if_neg hp] at h; exact (List.not_mem_nil h).elim

theorem runTask_nc (e : Env) (s : Srv) (conn now : Nat) : Out.complete true ∉ (runTask e s conn now).2 :=
  fun h => by obtain ⟨_, ⟨_, h⟩ | ⟨_, h⟩⟩ := runTask_out h <;> cases h

theorem onCallSel_nc (e : Env) (s : Srv) (conn now : Nat) (q : Req) : Out.complete true ∉ (onCallSel e s conn now q).2 :=
  onCallSel_cases (P := fun _ outs => Out.complete true ∉ outs) e s conn now q
    (fun _ _ _ hp h => (hp _ h).quiet.2 rfl)
    (fun _ _ _ _ _ _ _ _ _ _ hp h => (List.mem_append.mp h).elim (fun h => (hp _ h).quiet.2 rfl) (by simp))
    (fun _ => by simp) (fun _ _ _ _ _ => by simp) (fun _ _ => by simp)

theorem onAck_complete (e : Env) (s : Srv) (conn now : Nat) (q : Req) (h : Out.complete true ∈ (onAck e s conn now q).2) :
    s.st = .waitFileAck ∧ (onAck e s conn now q).2 = [Out.complete true] := by
  revert h
  refine onAck_cases (P := fun _ outs => Out.complete true ∈ outs → s.st = .waitFileAck ∧ outs = [Out.complete true])
    e s conn now q (fun _ hp h => absurd rfl (hp _ h).quiet.2) (fun _ _ _ hp h => absurd rfl (hp _ h).quiet.2)
    (fun hst _ _ => ?_) (fun _ => by simp) (fun _ _ _ _ => by simp) (fun _ _ _ _ _ _ => by simp)
  split
  · exact fun _ => ⟨hst, rfl⟩
  · simp

theorem step_complete {e : Env} {s : Srv} {r : Rx} (g : Good e s r) (op : Op) (h : Out.complete true ∈ (step e s op).2) :
    (step e s op).2 = [Out.complete true] ∧ r.done = e.file.flatten ∧ r.cur = [] := by
  revert h
  have foreign : ∀ {s' res} {p : Prop}, KeepsDl s' res → Out.complete true ∈ res.2 → p := fun k h => absurd rfl (k.out _ h).2
  exact step_cases (P := fun res => Out.complete true ∈ res.2 → res.2 = [Out.complete true] ∧ r.done = e.file.flatten ∧ r.cur = [])
    op (by simp) (fun c n h => absurd h (runTask_nc e s c n))
    (fun _ _ _ => foreign (onFileReady_keepsDl ..)) (fun _ _ _ => foreign (onSectionReady_keepsDl ..))
    (fun _ _ => foreign (onSegment_keepsDl ..)) (fun _ _ _ => foreign (onLastSeg_keepsDl ..))
    (fun conn now q h => have ⟨hst, hout⟩ := onAck_complete e _ conn now q h; ⟨hout, (g.expire now).wfa hst⟩)
    (fun conn now q _ _ h => absurd h (onCallSel_nc e _ conn now q)) (by simp)

/-- at every point of the trace where success is reported to the provider, the master holds `file` -/
def SafeFrom (file : List Nat) : Rx → List Out → Prop
  | _, [] => True
  | r, o :: os => (o = Out.complete true → r.done = file ∧ r.cur = []) ∧ SafeFrom file (rxStep r o) os

theorem safeFrom_append (file : List Nat) : ∀ (a b : List Out) (r : Rx),
    SafeFrom file r (a ++ b) ↔ SafeFrom file r a ∧ SafeFrom file (rxFold r a) b := by
  intro a
  induction a with
  | nil => intro b r; simp [SafeFrom, rxFold]
  | cons o os ih => intro b r; simp [SafeFrom, rxFold, ih, and_assoc]

theorem safeFrom_no_complete (file : List Nat) : ∀ (a : List Out) (r : Rx), Out.complete true ∉ a → SafeFrom file r a := by
  intro a
  induction a with
  | nil => intro r _; trivial
  | cons o os ih =>
    intro r h
    refine ⟨fun ho => absurd (by simp [ho]) h, ih _ (fun h' => h (by simp [h']))⟩

theorem run_safe {e : Env} (ok : FileOk e) : ∀ (ops : List Op) (s : Srv) (r : Rx), Good e s r →
    (∀ op ∈ ops, NoDecline op) → SafeFrom e.file.flatten r (run e s ops).2 := by
  intro ops
  induction ops with
  | nil => intro s r _ _; trivial
  | cons op ops ih =>
    intro s r g hnd
    rw [run_cons]
    rw [safeFrom_append]
    constructor
    · by_cases hc : Out.complete true ∈ (step e s op).2
      · obtain ⟨hout, hd, hcur⟩ := step_complete g op hc
        rw [hout]
        exact ⟨fun _ => ⟨hd, hcur⟩, trivial⟩
      · exact safeFrom_no_complete _ _ _ hc
    · exact ih _ _ (step_good ok g op (hnd op (by simp))) (fun o ho => hnd o (by simp [ho]))

end Iec.FileSrv
