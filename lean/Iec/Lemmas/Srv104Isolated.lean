/-
Isolation between connections (C10): everything the server does for connection `i` (reception of whatever its peer
sends, periodic tasks) leaves the record of every other connection untouched, except that a STARTDT act on `i`
deactivates the other connections of the group (their state becomes "not started", nothing else).  Every atom but
`activate` writes slot `i` only.
-/
import Iec.Lemmas.Srv104Steps
namespace Iec.Srv104
open Iec.KWindow Iec.Queues

def SameOrDeact (c c' : Conn) : Prop := c' = c ∨ c' = { c with state := 2 }

theorem SameOrDeact.refl (c : Conn) : SameOrDeact c c := Or.inl rfl
theorem SameOrDeact.trans {a b c : Conn} (h1 : SameOrDeact a b) (h2 : SameOrDeact b c) : SameOrDeact a c := by
  rcases h1 with rfl | rfl
  · exact h2
  · rcases h2 with rfl | rfl
    · exact Or.inr rfl
    · exact Or.inr rfl

def Other (i j : Nat) (c c' : Conn) : Prop := j ≠ i → SameOrDeact c c'

abbrev OK1 (i : Nat) : Slave → Slave → Prop := PerConn (Other i)

theorem ok1_frame (K : Caps) (i : Nat) : Frame K i (Other i) where
  refl _ _ _ := .refl _
  trans _ _ _ _ h1 h2 hj := (h1 hj).trans (h2 hj)
  upd _ hj := absurd rfl hj
  sendI _ _ _ _ _ _ := ⟨fun hj => absurd rfl hj, fun hj => absurd rfl hj⟩
  deact _ _ hj := absurd rfl hj
  actv _ := ⟨fun _ _ _ => .inr rfl, fun _ hj => absurd rfl hj⟩
  count _ _ hj := absurd rfl hj

theorem ok1_handleTcpConnection (s : Slave) (i : Nat) : OK1 i s (handleTcpConnection s i) := by
  rcases steps_handleTcpConnection (i := i) s with st | st <;> exact st.perConn (ok1_frame _ i)

theorem ok1_periodic (s : Slave) (i : Nat) : OK1 i s (periodic s i) := (steps_periodic s).perConn (ok1_frame _ i)

end Iec.Srv104
