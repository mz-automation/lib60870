/-
ASDUs are handed to the application only by the I-format branch of `handleMessage`: the hand-over is an atom that only
a part of the model that counts received I-format APDUs can make, and every other atom extends the log by observations
none of which is an ASDU delivery (`ExtNoAsdu`, here `NA`).  This gives C05 over every sequence of messages handled on a
connection up to the one that closes it: what the application is handed is exactly the payload of the deliverable
I-format APDUs, once each, in arrival order.
-/
import Iec.Lemmas.Srv104Vr
namespace Iec.Srv104
open Iec.KWindow Iec.Queues

abbrev NA := ExtNoAsdu

theorem na_atom {K : Caps} {i : Nat} {s t : Slave} (hc : ¬ K.count) (a : Atom K i s t) : NA s t := by
  rcases a.log_cases with e | ⟨_, l, e, hl⟩ | ⟨o, n, e⟩ | ⟨_, h, _⟩ | ⟨b, _, _, _, e⟩
  · exact ext_of_log_eq e
  · exact ⟨l, e, fun o ho => by cases hl o ho <;> rfl⟩
  · exact ext_snoc e n.not_asdu
  · exact absurd h hc
  · exact ext_snoc e rfl

theorem na_steps {K : Caps} {i : Nat} (hc : ¬ K.count) {s t : Slave} (st : Steps K i s t) : NA s t :=
  st.inv (P := NA s) (fun _ _ ht a => ext_trans ht (na_atom hc a)) (ext_refl s)

theorem na_receiveMessage (s : Slave) (i : Nat) : NA s (receiveMessage s i).1 := na_steps (K := .quiet) id (steps_receiveMessage s)

theorem na_ackIfW (s : Slave) (i : Nat) : NA s (ackIfW s i) := na_steps (K := .quiet) id (steps_ackIfW s)

theorem na_periodic (s : Slave) (i : Nat) : NA s (periodic s i) := na_steps id (steps_periodic s)

theorem na_resetUnconfirmed (s : Slave) (j : Nat) : NA s (resetUnconfirmed s j) := ext_of_log_eq (resetUnconfirmed_same s j).1

/-- C05 for one APDU: on a started connection an I-format APDU (≥ 7 octets) is handed to the application exactly once iff
N(S) = V(R) (and the N(R) and length checks pass); otherwise nothing is delivered and the connection is closed. -/
theorem iframe_delivery (s : Slave) (i : Nat) (_ : i < s.conns.length) (buf : List Nat) (h7 : 7 ≤ buf.length)
    (hst : (s.conn i).state = 1) :
    (IAccept s i buf →
      (handleI s i buf).2 = true ∧
      ∃ l, (handleI s i buf).1.log = s.log ++ (.asdu i (buf.drop 6)) :: l ∧ ∀ o ∈ l, o.isAsdu = false) ∧
    (¬ IAccept s i buf → (handleI s i buf).2 = false ∧ (handleI s i buf).1.log = s.log) := by
  rcases handleI_cases s i buf with ⟨hn, hv, hl, _⟩ | ⟨hy, s2, _, hlog, ⟨hl, e⟩ | ⟨hl, hok, st2⟩⟩
  · exact ⟨fun h => absurd ⟨h7, hst, h.1, h.2.1⟩ hn, fun _ => ⟨hv, hl⟩⟩
  · rw [e]
    exact ⟨fun h => absurd h.2.2 (Nat.not_le.mpr hl), fun _ => ⟨rfl, hlog⟩⟩
  · refine ⟨fun _ => ⟨hok, ?_⟩, fun h => absurd ⟨hy.2.2.1, hy.2.2.2, hl⟩ h⟩
    -- the application is handed the ASDU; its replies hand nothing over
    obtain ⟨l, e, n⟩ := na_steps id st2
    exact ⟨l, by rw [e, ← hlog]; exact List.append_assoc _ _ _, n⟩

def Deliverable (s : Slave) (i : Nat) (buf : List Nat) : Prop :=
  buf.getD 0 0 = 0x68 ∧ buf.getD 1 0 = buf.length - 2 ∧ buf.getD 2 0 &&& 1 = 0 ∧ 7 ≤ buf.length ∧
  (s.conn i).state = 1 ∧ IAccept s i buf

instance (s : Slave) (i : Nat) (buf : List Nat) : Decidable (Deliverable s i buf) := by unfold Deliverable; infer_instance

theorem deliverable_iff {s : Slave} {i : Nat} {buf : List Nat} :
    Deliverable s i buf ↔ IFramed buf ∧ SeqOk s i buf ∧ s.p.asduHdr ≤ buf.length - 6 := by
  unfold Deliverable IFramed SeqOk IAccept
  constructor
  · rintro ⟨a, b, c, h7, hs, hns, hv, hl⟩
    exact ⟨⟨by omega, a, b, c⟩, ⟨h7, hs, hns, hv⟩, hl⟩
  · rintro ⟨⟨_, a, b, c⟩, ⟨h7, hs, hns, hv⟩, hl⟩
    exact ⟨a, b, c, h7, hs, hns, hv, hl⟩

theorem handleMessage_delivery (s : Slave) (i : Nat) (buf : List Nat) :
    (Deliverable s i buf → (handleMessage s i buf).2 = true ∧
      ∃ l, (handleMessage s i buf).1.log = s.log ++ (.asdu i (buf.drop 6)) :: l ∧ ∀ o ∈ l, o.isAsdu = false) ∧
    (¬ Deliverable s i buf → NA s (handleMessage s i buf).1) := by
  rcases handleMessage_cases s i buf with ⟨hf, e⟩ | ⟨hf, st⟩
  · rw [e]
    rcases handleI_cases s i buf with ⟨hn, _, _, st⟩ | ⟨hy, s2, st1, hlog, ⟨hl, e⟩ | ⟨hl, hok, st2⟩⟩
    · exact ⟨fun h => absurd (deliverable_iff.1 h).2.1 hn, fun _ => na_steps id st⟩
    · rw [e]
      exact ⟨fun h => absurd (deliverable_iff.1 h).2.2 (Nat.not_le.mpr hl), fun _ => ext_of_log_eq hlog⟩
    · refine ⟨fun _ => ⟨hok, ?_⟩, fun hn => absurd (deliverable_iff.2 ⟨hf, hy, hl⟩) hn⟩
      obtain ⟨l, e, n⟩ := na_steps id st2
      exact ⟨l, by rw [e, ← hlog]; exact List.append_assoc _ _ _, n⟩
  · exact ⟨fun h => absurd (deliverable_iff.1 h).1 hf, fun _ => na_steps id st⟩

def asduLog (log : List Obs) : List (Nat × List Nat) :=
  log.filterMap fun o => match o with
    | .asdu c a => some (c, a)
    | _ => none

theorem asduLog_append (a b : List Obs) : asduLog (a ++ b) = asduLog a ++ asduLog b := by simp [asduLog, List.filterMap_append]

theorem asduLog_noAsdu (l : List Obs) (h : ∀ o ∈ l, o.isAsdu = false) : asduLog l = [] :=
  List.filterMap_eq_nil_iff.mpr fun o ho => by
    cases o with
    | asdu c a => cases h _ ho
    | _ => rfl

theorem asduLog_na {s s' : Slave} (h : NA s s') : asduLog s'.log = asduLog s.log := by
  obtain ⟨l, e, n⟩ := h
  rw [e, asduLog_append, asduLog_noAsdu l n]; simp

def recvRun (s : Slave) (i : Nat) : List (List Nat) → Slave × Bool
  | [] => (s, true)
  | m :: ms => if (handleMessage s i m).2 then recvRun (handleMessage s i m).1 i ms else ((handleMessage s i m).1, false)

def expectedDeliveries (s : Slave) (i : Nat) : List (List Nat) → List (List Nat)
  | [] => []
  | m :: ms => (if Deliverable s i m then [m.drop 6] else []) ++
      (if (handleMessage s i m).2 then expectedDeliveries (handleMessage s i m).1 i ms else [])

theorem deliveries_spec : ∀ (ms : List (List Nat)) (s : Slave) (i : Nat), i < s.conns.length →
    asduLog (recvRun s i ms).1.log = asduLog s.log ++ (expectedDeliveries s i ms).map (fun a => (i, a)) := by
  intro ms s i hi
  clear hi  -- the table size plays no part
  induction ms generalizing s with
  | nil => simp [recvRun, expectedDeliveries]
  | cons m ms ih =>
    obtain ⟨a, b⟩ := handleMessage_delivery s i m
    unfold recvRun expectedDeliveries
    by_cases hd : Deliverable s i m
    · obtain ⟨hok, l, hl, hn⟩ := a hd
      have h1 : asduLog (handleMessage s i m).1.log = asduLog s.log ++ [(i, m.drop 6)] := by
        rw [hl, asduLog_append]
        have : asduLog (Obs.asdu i (m.drop 6) :: l) = (i, m.drop 6) :: asduLog l := by simp [asduLog]
        rw [this, asduLog_noAsdu l hn]
      rw [if_pos hok, if_pos hd, if_pos hok, ih, h1]
      simp
    · have h1 := asduLog_na (b hd)
      rw [if_neg hd]
      by_cases hok : (handleMessage s i m).2 = true
      · rw [if_pos hok, if_pos hok, ih, h1]; simp
      · rw [if_neg hok, if_neg hok, h1]; simp

end Iec.Srv104
