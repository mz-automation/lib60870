/-
The work the server does for one connection, as a sequence of atomic updates.

What `handleTcpConnection s i` and `periodic s i` do to the server state is a sequence (`Steps`) of atomic updates
(`Atom`), each with the facts known at the place where the model makes it.  An invariant of the server is proved atom by
atom - for a relation between the records of a slot before and after, by giving a `Frame` - and `Steps.inv` /
`Steps.perConn` carry it through reception and the periodic tasks; `hcc_inv` adds the reaping step.
-/
import Iec.Lemmas.Srv104Activate
import Iec.Lemmas.KWindow
namespace Iec.Srv104
open Iec.KWindow Iec.Queues

/-- `C j` relates the record of slot `j` before and after, for every `j`; parameters and table size are kept -/
structure PerConn (C : Nat → Conn → Conn → Prop) (s s' : Slave) : Prop where
  p : s'.p = s.p
  len : s'.conns.length = s.conns.length
  conn : ∀ j, C j (s.conn j) (s'.conn j)

namespace PerConn
variable {C : Nat → Conn → Conn → Prop}

theorem refl (hr : ∀ j c, C j c c) (s : Slave) : PerConn C s s := ⟨rfl, rfl, fun _ => hr _ _⟩

theorem trans (ht : ∀ j a b c, C j a b → C j b c → C j a c) {a b c : Slave} (h1 : PerConn C a b) (h2 : PerConn C b c) :
    PerConn C a c :=
  ⟨h2.p.trans h1.p, h2.len.trans h1.len, fun j => ht j _ _ _ (h1.conn j) (h2.conn j)⟩

theorem of_conns (hr : ∀ j c, C j c c) {s s' : Slave} (hp : s'.p = s.p) (hc : s'.conns = s.conns) : PerConn C s s' :=
  ⟨hp, by rw [hc], fun j => by unfold Slave.conn; rw [hc]; exact hr _ _⟩

theorem of_src {s s' t : Slave} (hp : s'.p = s.p) (hc : s'.conns = s.conns) (h : PerConn C s' t) : PerConn C s t :=
  ⟨h.p.trans hp, h.len.trans (by rw [hc]), fun j => by
    have e : s.conn j = s'.conn j := by unfold Slave.conn; rw [hc]
    rw [e]; exact h.conn j⟩

theorem of_setConn (hr : ∀ j c, C j c c) {s t : Slave} {i : Nat} {c : Conn} (hp : t.p = s.p)
    (hc : t.conns = (s.setConn i c).conns) (h : C i (s.conn i) c) : PerConn C s t :=
  ⟨hp, by rw [hc]; exact setConn_len _ _ _, fun j => by
    have e : t.conn j = (s.setConn i c).conn j := by unfold Slave.conn; rw [hc]
    rw [e]
    rcases conn_setConn_cases s i c j with e | ⟨rfl, _, e⟩ <;> rw [e]
    · exact hr _ _
    · exact h⟩

end PerConn

/-- the ways the record of a connection is rewritten while it is served, transmission, activation and counting apart.
`stop`: a failed read or write, a rejected message or an expired timeout marks the connection for reaping.
`timers`: the T2 / T3 / TESTFR bookkeeping of `handleI`, `t3upd`, TESTFR con and the first three parts of `handleTimeouts`.
`acked`: an S-format acknowledgement is about to be sent (`w` test, T2, STOPDT act).
`halted`: a connection that is not STARTED becomes STOPPED (`hmStopDT`, `hmS`, once every event sent is confirmed).
`stamped`: `phaseT1` pulls back a `sentTime` that lies in the future.  `io`: `receiveMessage`.
The model makes each of them on the record of the slot (`Atom.upd`) except `released`: that is what an acknowledgement
(`Atom.ack`) does to the record, listed here so that `Frame.upd` speaks for that atom too. -/
inductive Upd : Conn → Conn → Prop
  | stop (c) : Upd c { c with isRunning := false }
  | timers (c) (t2 : Bool) (lc : Option Nat) (t3 tf : Nat) (w : Bool) :
      Upd c { c with t2Triggered := t2, lastConf := lc, nextT3 := t3, nextTestFR := tf, waitingTestFR := w }
  | acked (c) (lc : Option Nat) : Upd c { c with lastConf := lc, unconf := 0, t2Triggered := false }
  | halted (c) (h : c.state ≠ 1) : Upd c { c with state := 0 }
  | released (c) (d : Nat) (hd : d ≤ c.win.length) : Upd c { c with win := c.win.drop d }
  | stamped (c) (e : KEntry) (rest : List KEntry) (h : c.win = e :: rest) (t : Nat) :
      Upd c { c with win := { e with sentTime := t } :: rest }
  | io (c) (buf : List Nat) (sk : Sock) : Upd c { c with recvBuf := buf, sock := sk }

theorem Upd.same (c : Conn) : Upd c c := .timers c c.t2Triggered c.lastConf c.nextT3 c.nextTestFR c.waitingTestFR

theorem Upd.ite {c c' : Conn} (p : Prop) [Decidable p] (h : Upd c c') : Upd c (if p then c' else c) := by
  split
  · exact h
  · exact .same c

/-- what is logged apart from connection events, I-format APDUs and the ASDUs handed over: whether a reply of the
application was accepted for transmission (`appHandler`), and the S- and U-format frames written -/
inductive Note (i : Nat) : Obs → Prop
  | reply (ok : Bool) : Note i (.reply i ok)
  | tx (b : List Nat) (h : ¬ isI b) : Note i (.tx i b)

theorem Note.not_itx {i c : Nat} {o : Obs} {b : List Nat} (n : Note i o) (e : o = .tx c b) : ¬ isI b := by
  cases n with
  | reply => cases e
  | tx _ h => cases e; exact h

theorem Note.not_asdu {i : Nat} {o : Obs} (n : Note i o) : o.isAsdu = false := by cases n <;> rfl

inductive ActEv : Obs → Prop
  | on (j : Nat) : ActEv (.ev j "ACTIVATED")
  | off (j : Nat) : ActEv (.ev j "DEACTIVATED")

/-- the ways the model replaces a queue of the group while it serves a connection (acknowledgements apart): a reply
that cannot be sent at once is queued (`sendAsduInternal`), the next reply is taken (`sendWaitingHigh`), STARTDT act
empties the reply queue, the next waiting event is taken (`sendWaitingASDUs`) -/
inductive GUpd : Group → Group → Prop
  | park (g) (a : List Nat) : GUpd g { g with highQ := (g.highQ.enqueue a).1 }
  | unpark (g) : GUpd g { g with highQ := g.highQ.getNext.1 }
  | flush (g) : GUpd g { g with highQ := g.highQ.reset }
  | fetch (g) : GUpd g { g with lowQ := g.lowQ.getNextWaiting.1 }

/-- which of the atoms other than `upd`, `note`, `grp` a part of the model can make.  `send q`: an I-format APDU whose
k-buffer entry carries `q` (`none` for a reply, offset and id of the queue entry for an event); `count` stands for
`Atom.count` and `Atom.deliver`. -/
structure Caps where
  send : Option (Nat × Nat) → Prop
  ack : Prop
  deact : Prop
  actv : Prop
  count : Prop

def Caps.quiet : Caps := ⟨fun _ => False, False, False, False, False⟩
/-- the I-format branch of `handleMessage`: replies only, no connection event -/
def Caps.iframe : Caps := ⟨(· = none), True, False, False, True⟩
/-- the I-format branch apart from the counting of the APDU and its hand-over -/
def Caps.uncounted : Caps := { Caps.iframe with count := False }
/-- the other branches of `handleMessage`: no I-format APDU -/
def Caps.control : Caps := ⟨fun _ => False, True, True, True, False⟩
/-- the periodic tasks: no acknowledgement is taken, no connection event -/
def Caps.periodic : Caps := ⟨fun _ => True, False, False, False, False⟩
def Caps.all : Caps := ⟨fun _ => True, True, True, True, True⟩

structure Caps.le (K K' : Caps) : Prop where
  send : ∀ q, K.send q → K'.send q
  ack : K.ack → K'.ack
  deact : K.deact → K'.deact
  actv : K.actv → K'.actv
  count : K.count → K'.count

theorem Caps.le_all (K : Caps) : K.le .all :=
  ⟨fun _ _ => trivial, fun _ => trivial, fun _ => trivial, fun _ => trivial, fun _ => trivial⟩

def Conn.counted (c : Conn) : Conn := { c with vr := (c.vr + 1) % 32768, unconf := c.unconf + 1 }

def Slave.counted (s : Slave) (i : Nat) : Slave := s.setConn i (s.conn i).counted

/-- one atomic update of the work for connection `i`, made by a part of the model with capabilities `K`.  `grp` is on
the group whose queues `i` uses.  `sendI` carries what the model has tested wherever it calls `sendI`: window not full,
connection STARTED.  `ack` is `checkSequenceNumber`, whatever its verdict.  `deact` is `MasterConnection_deactivate` on
`i`, `actv` is `CS104_Slave_activate`, which deactivates other slots as well.  `count` and `deliver` are the two halves
of accepting an I-format APDU in `handleI`: V(R) and the number of unacknowledged APDUs go up, the ASDU is logged as
handed to the application. -/
inductive Atom (K : Caps) (i : Nat) : Slave → Slave → Prop
  | upd {s : Slave} {c' : Conn} : Upd (s.conn i) c' → Atom K i s (s.setConn i c')
  | note {s : Slave} {o : Obs} : Note i o → Atom K i s (emit s o)
  | grp {s : Slave} {g' : Group} : GUpd (s.grp (s.gidx i)) g' → Atom K i s (s.setGrp (s.gidx i) g')
  | sendI {s : Slave} (a : List Nat) (q : Option (Nat × Nat)) : K.send q →
      isFull (s.conn i).maxSent (s.conn i).win = false → (s.conn i).state = 1 → Atom K i s (sendI s i a q)
  | ack {s : Slave} (nr : Nat) : K.ack → Atom K i s (checkSeqConn s i nr).1
  | deact {s : Slave} : K.deact → Atom K i s (deactivate s i)
  | actv {s : Slave} : K.actv → Atom K i s (activate s i)
  | count {s : Slave} : K.count → Atom K i s (s.counted i)
  | deliver {s : Slave} (a : List Nat) : K.count → Atom K i s (emit s (.asdu i a))

theorem Atom.mono {K K' : Caps} (h : K.le K') {i : Nat} {s s' : Slave} (a : Atom K i s s') : Atom K' i s s' := by
  cases a with
  | upd u => exact .upd u
  | note n => exact .note n
  | grp g => exact .grp g
  | sendI a q hq hf hs => exact .sendI a q (h.send q hq) hf hs
  | ack nr ha => exact .ack nr (h.ack ha)
  | deact hl => exact .deact (h.deact hl)
  | actv hl => exact .actv (h.actv hl)
  | count hc => exact .count (h.count hc)
  | deliver a hc => exact .deliver a (h.count hc)

theorem Atom.actv_or {K : Caps} {i : Nat} {s t : Slave} (a : Atom K i s t) :
    (K.actv ∧ t = activate s i) ∨ Atom { K with actv := False } i s t := by
  cases a with
  | upd u => exact .inr (.upd u)
  | note n => exact .inr (.note n)
  | grp g => exact .inr (.grp g)
  | sendI a q hq hf hs => exact .inr (.sendI a q hq hf hs)
  | ack nr ha => exact .inr (.ack nr ha)
  | deact hl => exact .inr (.deact hl)
  | actv hl => exact .inl ⟨hl, rfl⟩
  | count hc => exact .inr (.count hc)
  | deliver a hc => exact .inr (.deliver a hc)

theorem Atom.life_or {K : Caps} {i : Nat} {s t : Slave} (a : Atom K i s t) :
    (K.deact ∧ t = deactivate s i) ∨ (K.actv ∧ t = activate s i) ∨ Atom { K with deact := False, actv := False } i s t := by
  cases a with
  | upd u => exact .inr (.inr (.upd u))
  | note n => exact .inr (.inr (.note n))
  | grp g => exact .inr (.inr (.grp g))
  | sendI a q hq hf hs => exact .inr (.inr (.sendI a q hq hf hs))
  | ack nr ha => exact .inr (.inr (.ack nr ha))
  | deact hl => exact .inl ⟨hl, rfl⟩
  | actv hl => exact .inr (.inl ⟨hl, rfl⟩)
  | count hc => exact .inr (.inr (.count hc))
  | deliver a hc => exact .inr (.inr (.deliver a hc))

theorem Atom.send_or {K : Caps} {i : Nat} {s t : Slave} (a : Atom K i s t) :
    (∃ b q, t = Srv104.sendI s i b q) ∨ Atom { K with send := fun _ => False } i s t := by
  cases a with
  | upd u => exact .inr (.upd u)
  | note n => exact .inr (.note n)
  | grp g => exact .inr (.grp g)
  | sendI a q _ _ _ => exact .inl ⟨a, q, rfl⟩
  | ack nr ha => exact .inr (.ack nr ha)
  | deact hl => exact .inr (.deact hl)
  | actv hl => exact .inr (.actv hl)
  | count hc => exact .inr (.count hc)
  | deliver a hc => exact .inr (.deliver a hc)

inductive Steps (K : Caps) (i : Nat) : Slave → Slave → Prop
  | refl (s : Slave) : Steps K i s s
  | tail {s t u : Slave} : Steps K i s t → Atom K i t u → Steps K i s u

namespace Steps
variable {K : Caps} {i : Nat}

theorem one {s t : Slave} (a : Atom K i s t) : Steps K i s t := .tail (.refl s) a

theorem trans {s t u : Slave} (h1 : Steps K i s t) (h2 : Steps K i t u) : Steps K i s u := by
  induction h2 with
  | refl => exact h1
  | tail _ a ih => exact .tail ih a

theorem mono {K' : Caps} (h : K.le K') {s t : Slave} (st : Steps K i s t) : Steps K' i s t := by
  induction st with
  | refl => exact .refl _
  | tail _ a ih => exact .tail ih (a.mono h)

theorem upd {s : Slave} {c' : Conn} (u : Upd (s.conn i) c') : Steps K i s (s.setConn i c') := one (.upd u)
theorem note {s : Slave} {o : Obs} (n : Note i o) : Steps K i s (emit s o) := one (.note n)
theorem grp {s : Slave} {g' : Group} (g : GUpd (s.grp (s.gidx i)) g') : Steps K i s (s.setGrp (s.gidx i) g') := one (.grp g)

theorem inv {P : Slave → Prop} (hP : ∀ t u, P t → Atom K i t u → P u) {s t : Slave} (st : Steps K i s t) (h : P s) : P t := by
  induction st with
  | refl => exact h
  | tail _ a ih => exact hP _ _ ih a

end Steps

/-- `CS104_Slave_activate` is a run of deactivations followed by `MasterConnection_activate` -/
theorem activate_ind {P : Slave → Prop} (s : Slave) (i : Nat) (h0 : P s) (hd : ∀ t j, P t → P (deactivate t j))
    (ha : ∀ t, (∀ j, (t.conn j).isUsed = (s.conn j).isUsed) → P t → P (activateConn t i)) : P (activate s i) := by
  have h : ∀ js : List Nat, P (js.foldl deactivate s) ∧ ∀ j, ((js.foldl deactivate s).conn j).isUsed = (s.conn j).isUsed :=
    fun js => p_foldl (P := fun t => P t ∧ ∀ j, (t.conn j).isUsed = (s.conn j).isUsed) deactivate
      (fun t j ht => ⟨hd t j ht.1, fun x => by
        rcases deactivate_cases t j with ⟨_, e⟩ | ⟨_, _, e⟩ <;> rw [e] <;>
          rcases conn_setConn_cases (s := _) j { t.conn j with state := 2 } x with e | ⟨rfl, _, e⟩ <;> rw [e] <;>
          exact ht.2 _⟩) js s ⟨h0, fun _ => rfl⟩
  unfold activate
  exact ha _ (h _).2 (h _).1

theorem deactivate_not_started (s : Slave) (i : Nat) : ((deactivate s i).conn i).state ≠ 1 := by
  rcases deactivate_cases s i with ⟨_, e⟩ | ⟨_, _, e⟩ <;> rw [e]
  -- the slot holds the deactivated record or, where the table has no such slot, the default one
  all_goals
    rcases conn_setConn_self _ i { s.conn i with state := 2 } with h | h <;> rw [h]
    · exact (by decide : (2 : Nat) ≠ 1)
    · decide

def OnlyLife (s t : Slave) : Prop := ∃ cs l, t = { s with conns := cs, log := s.log ++ l } ∧ ∀ o ∈ l, ActEv o

theorem OnlyLife.refl (s : Slave) : OnlyLife s s := ⟨s.conns, [], by rw [List.append_nil], nofun⟩

theorem OnlyLife.setConn (s : Slave) (i : Nat) (c : Conn) : OnlyLife s (s.setConn i c) :=
  ⟨_, [], by rw [List.append_nil]; rfl, nofun⟩

theorem OnlyLife.event (s : Slave) {o : Obs} (ho : ActEv o) (i : Nat) (c : Conn) : OnlyLife s ((emit s o).setConn i c) :=
  ⟨_, [o], rfl, fun _ h => by rw [List.mem_singleton.mp h]; exact ho⟩

theorem OnlyLife.rest {s t : Slave} (h : OnlyLife s t) :
    t.p = s.p ∧ t.now = s.now ∧ t.groups = s.groups ∧ t.openConnections = s.openConnections := by
  obtain ⟨_, _, rfl, _⟩ := h
  exact ⟨rfl, rfl, rfl, rfl⟩

theorem OnlyLife.trans {a b c : Slave} (h1 : OnlyLife a b) (h2 : OnlyLife b c) : OnlyLife a c := by
  obtain ⟨cs, l, rfl, hl⟩ := h1
  obtain ⟨cs', l', rfl, hl'⟩ := h2
  exact ⟨cs', l ++ l', by simp only [List.append_assoc], fun o ho => (List.mem_append.mp ho).elim (hl o) (hl' o)⟩

theorem deactivate_onlyLife (s : Slave) (j : Nat) : OnlyLife s (deactivate s j) := by
  rcases deactivate_cases s j with ⟨_, e⟩ | ⟨_, _, e⟩ <;> rw [e]
  · exact .setConn s j _
  · exact .event s (.off j) j _

theorem activate_onlyLife (s : Slave) (i : Nat) : OnlyLife s (activate s i) :=
  activate_ind s i (.refl s) (fun t j ht => ht.trans (deactivate_onlyLife t j)) fun t _ ht => by
    refine ht.trans ?_
    rcases activateConn_cases t i with ⟨_, e⟩ | ⟨_, e⟩ <;> rw [e]
    · exact .setConn t i _
    · exact .event t (.on i) i _

theorem Atom.log_cases {K : Caps} {i : Nat} {s t : Slave} (a : Atom K i s t) :
    t.log = s.log ∨ ((K.deact ∨ K.actv) ∧ ∃ l, t.log = s.log ++ l ∧ ∀ o ∈ l, ActEv o) ∨
      (∃ o, Note i o ∧ t.log = s.log ++ [o]) ∨ (∃ a, K.count ∧ t.log = s.log ++ [.asdu i a]) ∨
      ∃ a q, K.send q ∧ (s.conn i).state = 1 ∧ t.log = s.log ++ [.tx i (iFrame (s.conn i) a)] := by
  cases a with
  | upd u => exact .inl rfl
  | note n => exact .inr (.inr (.inl ⟨_, n, rfl⟩))
  | grp g => exact .inl rfl
  | sendI a q hq _ hs =>
    rcases sendI_cases s i a q with e | e <;> rw [e]
    · exact .inl rfl
    · exact .inr (.inr (.inr (.inr ⟨a, q, hq, hs, rfl⟩)))
  | ack nr _ =>
    obtain ⟨_, _, e⟩ := checkSeqConn_fst s i nr
    rw [e]; exact .inl rfl
  | deact h =>
    obtain ⟨_, l, e, hl⟩ := deactivate_onlyLife s i
    rw [e]; exact .inr (.inl ⟨.inl h, l, rfl, hl⟩)
  | actv h =>
    obtain ⟨_, l, e, hl⟩ := activate_onlyLife s i
    rw [e]; exact .inr (.inl ⟨.inr h, l, rfl, hl⟩)
  | count _ => exact .inl rfl
  | deliver a hc => exact .inr (.inr (.inr (.inl ⟨a, hc, rfl⟩)))

/-- what a family `C j` of relations on the record of slot `j` must satisfy to hold across every atom of connection `i`
(`Atom.perConn`).  `note`, `grp` and `deliver` leave the table alone and need `refl` only; `upd` answers for `ack` too
(`Upd.released`); `sendI` asks for both outcomes of the write.  Activation deactivates other slots, and which ones the
frame does not see: `actv` asks that of every slot. -/
structure Frame (K : Caps) (i : Nat) (C : Nat → Conn → Conn → Prop) : Prop where
  refl : ∀ j c, C j c c
  trans : ∀ j a b c, C j a b → C j b c → C j a c
  upd : ∀ {c c'}, Upd c c' → C i c c'
  sendI : ∀ c now q, K.send q → isFull c.maxSent c.win = false → c.state = 1 → C i c (c.unsent now q) ∧ C i c (c.sent now q)
  deact : K.deact → ∀ c, C i c { c with state := 2 }
  actv : K.actv → (∀ j c, C j c { c with state := 2 }) ∧ ∀ c, C i c { c with state := 1 }
  count : K.count → ∀ c, C i c c.counted

section
variable {K : Caps} {i : Nat} {C : Nat → Conn → Conn → Prop}

theorem perConn_deactivate (hr : ∀ j c, C j c c) {j : Nat} (h : ∀ c, C j c { c with state := 2 }) (s : Slave) :
    PerConn C s (deactivate s j) := by
  rcases deactivate_cases s j with ⟨_, e⟩ | ⟨_, _, e⟩ <;> rw [e] <;> exact .of_setConn hr rfl rfl (h _)

theorem perConn_activate (hr : ∀ j c, C j c c) (ht : ∀ j a b c, C j a b → C j b c → C j a c)
    (hd : ∀ j c, C j c { c with state := 2 }) (ha : ∀ c, C i c { c with state := 1 }) (s : Slave) :
    PerConn C s (activate s i) := by
  refine activate_ind s i (.refl hr s) (fun t j h => ?_) (fun t _ h => ?_)
  · exact h.trans ht (perConn_deactivate hr (hd j) t)
  · refine h.trans ht ?_
    rcases activateConn_cases t i with ⟨_, e⟩ | ⟨_, e⟩ <;> rw [e] <;> exact .of_setConn hr rfl rfl (ha _)

theorem Atom.perConn (F : Frame K i C) {s t : Slave} (a : Atom K i s t) : PerConn C s t := by
  cases a with
  | upd u => exact .of_setConn F.refl rfl rfl (F.upd u)
  | note n => exact .of_conns F.refl rfl rfl
  | grp g => exact .of_conns F.refl rfl rfl
  | sendI a q hq hf hs =>
    rcases sendI_cases s i a q with e | e <;> rw [e]
    · exact .of_setConn F.refl rfl rfl (F.sendI _ _ _ hq hf hs).1
    · exact .of_setConn F.refl rfl rfl (F.sendI _ _ _ hq hf hs).2
  | ack nr _ =>
    obtain ⟨d, rel, hd, _, e⟩ := checkSeqConn_cases s i nr
    rw [e]
    have hf := confirmReleased_facts rel (s.setConn i { s.conn i with win := (s.conn i).win.drop d }) i
    exact .of_setConn F.refl hf.2.2.1 hf.1 (F.upd (.released _ d hd))
  | deact hl => exact perConn_deactivate F.refl (F.deact hl) s
  | actv hl => exact perConn_activate F.refl F.trans (F.actv hl).1 (F.actv hl).2 s
  | count hc => exact .of_setConn F.refl rfl rfl (F.count hc _)
  | deliver a _ => exact .of_conns F.refl rfl rfl

theorem Steps.perConn (F : Frame K i C) {s t : Slave} (st : Steps K i s t) : PerConn C s t := by
  induction st with
  | refl => exact .refl F.refl _
  | tail _ a ih => exact PerConn.trans F.trans ih (a.perConn F)

/-- the frame of a field (or any function) of the record that the updates `K` allows leave alone -/
theorem Frame.of_field {α : Sort _} (f : Conn → α) (upd : ∀ {c c'}, Upd c c' → f c' = f c)
    (sendI : ∀ c now q, K.send q → f (c.unsent now q) = f c ∧ f (c.sent now q) = f c)
    (state : K.deact ∨ K.actv → ∀ (c : Conn) (n : Nat), f { c with state := n } = f c)
    (count : K.count → ∀ c : Conn, f c.counted = f c) : Frame K i fun _ c c' => f c' = f c where
  refl _ _ := rfl
  trans _ _ _ _ h1 h2 := h2.trans h1
  upd := upd
  sendI c now q hq _ _ := sendI c now q hq
  deact h c := state (.inl h) c 2
  actv h := ⟨fun _ c => state (.inr h) c 2, fun c => state (.inr h) c 1⟩
  count := count

theorem used_frame (K : Caps) (i : Nat) : Frame K i fun _ c c' => c'.isUsed = c.isUsed :=
  .of_field (·.isUsed) (fun u => by cases u <;> rfl) (fun _ _ _ _ => ⟨rfl, rfl⟩) (fun _ _ _ => rfl) (fun _ _ => rfl)

theorem Steps.used {s t : Slave} (st : Steps K i s t) (j : Nat) : (t.conn j).isUsed = (s.conn j).isUsed :=
  (st.perConn (used_frame K i)).conn j

theorem Atom.p_len {s t : Slave} (a : Atom K i s t) : t.p = s.p ∧ t.conns.length = s.conns.length :=
  have h := a.perConn (used_frame K i)
  ⟨h.p, h.len⟩

theorem Steps.started_iff (hd : ¬ K.deact) (ha : ¬ K.actv) {s t : Slave} (st : Steps K i s t) :
    (t.conn i).state = 1 ↔ (s.conn i).state = 1 :=
  Iff.of_eq <| (st.perConn <| .of_field (fun c => c.state = 1)
    (fun u => by
      cases u with
      | halted h => exact propext ⟨fun h0 => by simp at h0, fun h1 => absurd h1 h⟩
      | _ => rfl)
    (fun _ _ _ _ => ⟨rfl, rfl⟩) (fun h => (h.elim hd ha).elim) (fun _ _ => rfl)).conn i

theorem Atom.now_oc {s t : Slave} (a : Atom K i s t) : t.now = s.now ∧ t.openConnections = s.openConnections := by
  cases a with
  | sendI a q _ _ _ => rcases sendI_cases s i a q with e | e <;> rw [e] <;> exact ⟨rfl, rfl⟩
  | ack nr _ =>
    obtain ⟨_, _, e⟩ := checkSeqConn_fst s i nr
    rw [e]; exact ⟨rfl, rfl⟩
  | deact _ => exact ⟨(deactivate_onlyLife s i).rest.2.1, (deactivate_onlyLife s i).rest.2.2.2⟩
  | actv _ => exact ⟨(activate_onlyLife s i).rest.2.1, (activate_onlyLife s i).rest.2.2.2⟩
  | _ => exact ⟨rfl, rfl⟩

theorem Steps.env {s t : Slave} (st : Steps K i s t) : t.now = s.now ∧ t.p = s.p ∧ t.conns.length = s.conns.length :=
  st.inv (P := fun u => u.now = s.now ∧ u.p = s.p ∧ u.conns.length = s.conns.length)
    (fun _ _ ht a => ⟨a.now_oc.1.trans ht.1, a.p_len.1.trans ht.2.1, a.p_len.2.trans ht.2.2⟩) ⟨rfl, rfl, rfl⟩

theorem Steps.inv_used {P : Slave → Prop} (hP : ∀ t u, (t.conn i).isUsed = true → P t → Atom K i t u → P u) {s t : Slave}
    (st : Steps K i s t) (hu : (s.conn i).isUsed = true) (h : P s) : P t := by
  induction st with
  | refl => exact h
  | tail st' a ih => exact hP _ _ ((st'.used i).trans hu) ih a

end

/-! ### every function of reception and of the periodic tasks is a sequence of atoms -/

section
variable {K : Caps} {i : Nat}

theorem steps_sendS (s : Slave) : Steps K i s (sendS s i) := by
  unfold sendS
  simp only
  rcases write_cases s i [0x68, 0x04, 0x01, 0, seqLo (s.conn i).vr, seqHi (s.conn i).vr] with h | h <;> rw [h]
  · exact .upd (.stop _)
  · exact .note (.tx _ (by simp [isI]))

theorem steps_sendAsduInternal (hk : K.send none) (s : Slave) (a : List Nat) : Steps K i s (sendAsduInternal s i a).1 := by
  unfold sendAsduInternal
  simp only
  split
  · rename_i hst
    split
    · rename_i h
      simp only [Bool.and_eq_true, Bool.not_eq_true'] at h
      exact .one (.sendI a none hk h.1 hst)
    · exact .grp (.park _ a)
  · exact .refl s

theorem steps_foldl {α} (f : Slave → α → Slave) (hf : ∀ s a, Steps K i s (f s a)) (l : List α) (s : Slave) :
    Steps K i s (l.foldl f s) := by
  induction l generalizing s with
  | nil => exact .refl s
  | cons a l ih => exact (hf s a).trans (ih _)

theorem steps_t3upd (s : Slave) : Steps K i s (t3upd s i) :=
  .upd (.timers _ _ _ _ _ _)

theorem steps_checkSeqConn (hk : K.ack) (s : Slave) (nr : Nat) : Steps K i s (checkSeqConn s i nr).1 := .one (.ack nr hk)

/-- from the state after the hand-over: `Atom.deliver` needs `K.count`, the replies need `K.send none` only -/
theorem steps_replies (hk : K.send none) (s : Slave) (a : List Nat) :
    Steps K i (emit s (.asdu i a)) (appHandler s i a) := by
  unfold appHandler
  exact steps_foldl _ (fun t _ => (steps_sendAsduInternal hk t a).trans (.note (.reply _))) _ _

/-- the tests of `handleMessage` that lead to `handleI` -/
def IFramed (buf : List Nat) : Prop :=
  ¬ buf.length < 6 ∧ buf.getD 0 0 = 0x68 ∧ buf.getD 1 0 = buf.length - 2 ∧ buf.getD 2 0 &&& 1 = 0

/-- the tests of `handleI` before it counts the APDU -/
def SeqOk (s : Slave) (i : Nat) (buf : List Nat) : Prop :=
  7 ≤ buf.length ∧ (s.conn i).state = 1 ∧ frameNS buf = (s.conn i).vr ∧ valid (s.conn i).vs (s.conn i).win (frameNR buf) = true

instance (s : Slave) (i : Nat) (buf : List Nat) : Decidable (SeqOk s i buf) := by unfold SeqOk; infer_instance

/-- `s2` is the state after the timer update and the acknowledgement.  The count and the hand-over are not among the
`Steps` (`.uncounted`) but stand between them, so that a caller sees where they happen. -/
theorem handleI_cases (s : Slave) (i : Nat) (buf : List Nat) :
    (¬ SeqOk s i buf ∧ (handleI s i buf).2 = false ∧ (handleI s i buf).1.log = s.log ∧
      Steps .uncounted i s (handleI s i buf).1) ∨
    (SeqOk s i buf ∧ ∃ s2, Steps .uncounted i s s2 ∧ s2.log = s.log ∧
      ((buf.length - 6 < s.p.asduHdr ∧ handleI s i buf = (s2.counted i, false)) ∨
       (s.p.asduHdr ≤ buf.length - 6 ∧ (handleI s i buf).2 = true ∧
        Steps .uncounted i (emit (s2.counted i) (.asdu i (buf.drop 6))) (handleI s i buf).1))) := by
  unfold handleI SeqOk
  extract_lets n c c1 s1 ns nr
  -- `by_cases` with `if_pos` / `if_neg`: `split` would simplify the whole rest of the function at every test
  by_cases h7 : n < 7
  · rw [if_pos h7]; exact .inl ⟨fun h => absurd h.1 (Nat.not_le.mpr h7), rfl, rfl, .refl s⟩
  rw [if_neg h7]
  by_cases hst : (c.state != 1) = true
  · rw [if_pos hst]; exact .inl ⟨fun h => by simp [c, h.2.1] at hst, rfl, rfl, .refl s⟩
  rw [if_neg hst]
  have hst : (s.conn i).state = 1 := by simpa [c] using hst
  have hi := lt_of_started s i hst
  have hc1 : c1.vr = c.vr ∧ c1.vs = c.vs ∧ c1.win = c.win := by dsimp only [c1]; split <;> exact ⟨rfl, rfl, rfl⟩
  have h1 : Steps .uncounted i s s1 := by
    dsimp only [s1, c1]; split <;> exact .upd (.timers _ _ _ _ _ _)
  by_cases hne : (ns != c1.vr) = true
  · rw [if_pos hne]
    exact .inl ⟨fun h => by rw [show ns = c1.vr from h.2.2.1.trans hc1.1.symm] at hne; simp at hne, rfl, rfl, h1⟩
  rw [if_neg hne]
  have hns : frameNS buf = (s.conn i).vr := (by simpa using hne : ns = c1.vr).trans hc1.1
  have hok := checkSeqConn_snd s1 i nr
  have hlog : (checkSeqConn s1 i nr).1.log = s.log := by
    obtain ⟨w, gs, e⟩ := checkSeqConn_fst s1 i nr
    rw [e]; rfl
  rw [conn_setConn s i c1 hi, hc1.2.1, hc1.2.2] at hok
  have h2 := h1.trans (steps_checkSeqConn (K := .uncounted) (i := i) trivial s1 nr)
  generalize checkSeqConn s1 i nr = r at h2 hok hlog
  obtain ⟨s2, ok⟩ := r
  -- `zeta := false`: the pair is taken apart, the `let`s that follow stay
  dsimp (config := { zeta := false }) only at h2 hok hlog ⊢
  split
  · rename_i hnok
    exact .inl ⟨fun h => by rw [hok, show valid c.vs c.win nr = true from h.2.2.2] at hnok; simp at hnok, rfl, hlog, h2⟩
  rename_i hnok
  have hval : valid (s.conn i).vs (s.conn i).win (frameNR buf) = true := hok.symm.trans (by simpa using hnok)
  extract_lets c2 s3
  have hst3 : (s3.conn i).state = 1 :=
    have h := (h2.started_iff id id).2 hst
    conn_setConn_either (P := fun x => x.state = 1) s2 i _ h h
  rw [if_pos hst3]
  have hp : s3.p = s.p := h2.env.2.1
  refine .inr ⟨⟨Nat.le_of_not_lt h7, hst, hns, hval⟩, s2, h2, hlog, ?_⟩
  split
  · rename_i hl
    exact .inl ⟨hp ▸ hl, rfl⟩
  · rename_i hl
    exact .inr ⟨Nat.le_of_not_lt (hp ▸ hl), rfl, (steps_replies rfl s3 _).trans (.upd (.timers _ _ _ _ _ _))⟩

theorem steps_handleI (s : Slave) (buf : List Nat) : Steps .iframe i s (handleI s i buf).1 := by
  have le : Caps.le .uncounted .iframe := ⟨fun _ h => h, id, id, id, False.elim⟩
  rcases handleI_cases s i buf with ⟨_, _, _, st⟩ | ⟨_, s2, st1, _, ⟨_, e⟩ | ⟨_, _, st2⟩⟩
  · exact st.mono le
  · rw [e]; exact (st1.mono le).trans (.one (.count trivial))
  · exact (((st1.mono le).trans (.one (.count trivial))).trans (.one (.deliver _ trivial))).trans (st2.mono le)

/-- the end of the three branches that answer with a fixed U-format frame -/
theorem steps_answer (s : Slave) (b : List Nat) (hb : ¬ isI b) :
    Steps K i s (match write s i b with | (s, ok) => if ok = true then (t3upd s i, true) else (s, false)).1 := by
  rcases write_cases s i b with h | h <;> rw [h]
  · exact .refl s
  · exact (Steps.note (.tx b hb)).trans (steps_t3upd _)

theorem steps_hmTestFR (s : Slave) : Steps K i s (hmTestFR s i).1 := steps_answer s _ (by decide)

theorem steps_hmStartDT (hl : K.actv) (s : Slave) : Steps K i s (hmStartDT s i).1 := by
  unfold hmStartDT
  exact ((Steps.one (.actv hl)).trans (.grp (.flush _))).trans (steps_answer _ _ (by decide))

theorem steps_phaseT3 (s : Slave) : Steps K i s (phaseT3 s i) := by
  unfold phaseT3
  extract_lets now c c0
  split
  rename_i c1 t3hit heq
  have h1 : Steps K i s (s.setConn i c1) := by
    -- `heq` says which pair `(c1, t3hit)` is: its first component is put into the goal
    have e := (congrArg Prod.fst heq).symm
    dsimp only at e
    rw [e]
    split
    · exact .upd (.same _)
    · exact .upd (.ite _ (.timers _ _ _ _ _ _))
  extract_lets s1
  split
  · rcases write_cases s1 i TESTFR_ACT with h | h <;> rw [h]
    · exact (h1.trans (.upd (.stop _))).trans (.upd (.timers _ _ _ _ _ _))
    · exact (h1.trans (.note (.tx _ (by decide)))).trans (.upd (.timers _ _ _ _ _ _))
  · exact h1

theorem steps_phaseTestFR (s : Slave) : Steps K i s (phaseTestFR s i).1 := by
  unfold phaseTestFR
  extract_lets now c
  split
  · exact .upd (.ite _ (.timers _ _ _ _ _ _))
  · exact .refl s

theorem steps_phaseT2 (s : Slave) : Steps K i s (phaseT2 s i) := by
  unfold phaseT2
  extract_lets now c c1 s1
  split
  · rename_i hc
    have hi : i < s.conns.length := lt_of_conn_ne s i fun e => by
      dsimp only [c] at hc; rw [e] at hc; exact absurd hc (by decide)
    have h1 : Steps K i s s1 := by
      dsimp only [s1, c1]
      split
      · exact .upd (.ite _ (.timers _ _ _ _ _ _))
      · exact .upd (.same _)
    have e1 : s1.conn i = c1 := conn_setConn s i c1 hi
    split
    · split
      · exact (h1.trans (.upd (e1 ▸ .acked _ _))).trans (steps_sendS _)
      · exact h1
    · exact h1
  · exact .refl s

theorem steps_phaseT1 (s : Slave) (ok : Bool) : Steps K i s (phaseT1 s i ok).1 := by
  unfold phaseT1
  extract_lets now c
  split
  · exact .refl s
  · rename_i e rest hw
    extract_lets e1 s1
    have : Steps K i s s1 := by
      dsimp only [s1, e1]
      split
      · exact .upd (.stamped c e rest hw now)
      · exact .upd (.stamped c e rest hw e.sentTime)
    split <;> exact this

theorem steps_handleTimeouts (s : Slave) : Steps K i s (handleTimeouts s i).1 := by
  unfold handleTimeouts
  exact (((steps_phaseT3 s).trans (steps_phaseTestFR _)).trans (steps_phaseT2 _)).trans (steps_phaseT1 _ _)

theorem steps_hmStopDT (hl : K.deact) (s : Slave) : Steps K i s (hmStopDT s i).1 := by
  unfold hmStopDT
  extract_lets s0 c s1
  -- the acknowledgement between the deactivation and STOPDT con starts nothing
  have seg : ∀ K' : Caps, Steps K' i s0 s1 := fun K' => by
    dsimp only [s1]; split
    · exact (Steps.upd (.acked _ _)).trans (steps_sendS _)
    · exact .refl _
  have hne : (s1.conn i).state ≠ 1 := fun h =>
    deactivate_not_started s i (((seg .quiet).started_iff id id).1 h)
  have h1 : Steps K i s s1 := (Steps.one (.deact hl)).trans (seg K)
  split
  · exact h1.trans (steps_t3upd _)
  · have h2 := h1.trans (Steps.upd (.halted (s1.conn i) hne))
    -- as in `steps_answer`, which is slow to match against a state of this size
    rcases write_cases (s1.setConn i { s1.conn i with state := 0 }) i STOPDT_CON with h | h <;> rw [h]
    · exact h2
    · exact (h2.trans (.note (.tx _ (by decide)))).trans (steps_t3upd _)

theorem steps_hmS (ha : K.ack) (s : Slave) (buf : List Nat) : Steps K i s (hmS s i buf).1 := by
  unfold hmS
  extract_lets nr
  have h := steps_checkSeqConn (K := K) (i := i) ha s nr
  generalize checkSeqConn s i nr = r at h
  obtain ⟨s1, ok⟩ := r
  dsimp (config := { zeta := false }) only at h ⊢
  split
  · exact h
  extract_lets c
  split
  · rename_i h2
    split
    · exact (h.trans (.upd (.halted _ (by dsimp only [c] at h2; rw [h2]; decide)))).trans (steps_answer _ _ (by decide))
    · exact h.trans (steps_t3upd _)
  · split
    · exact h
    · exact h.trans (steps_t3upd _)

theorem handleMessage_cases (s : Slave) (i : Nat) (buf : List Nat) :
    (IFramed buf ∧ handleMessage s i buf = handleI s i buf) ∨
    (¬ IFramed buf ∧ Steps .control i s (handleMessage s i buf).1) := by
  unfold handleMessage IFramed
  extract_lets n b2
  -- one test at a time, as in `handleI_cases`
  by_cases h6 : n < 6
  · rw [if_pos h6]; exact .inr ⟨fun hf => hf.1 h6, .refl s⟩
  rw [if_neg h6]
  by_cases h0 : (buf.getD 0 0 != 0x68) = true
  · rw [if_pos h0]; exact .inr ⟨fun hf => by rw [hf.2.1] at h0; simp at h0, .refl s⟩
  rw [if_neg h0]
  by_cases h1 : (buf.getD 1 0 != n - 2) = true
  · rw [if_pos h1]; exact .inr ⟨fun hf => by rw [hf.2.2.1] at h1; simp [n] at h1, .refl s⟩
  rw [if_neg h1]
  by_cases hI : (b2 &&& 1 == 0) = true
  · rw [if_pos hI]
    exact .inl ⟨⟨h6, by simpa using h0, by simpa [n] using h1, by simpa [b2] using hI⟩, rfl⟩
  rw [if_neg hI]
  refine .inr ⟨fun hf => hI (by dsimp only [b2]; rw [hf.2.2.2]; rfl), ?_⟩
  by_cases c1 : (b2 &&& 0x43 == 0x43) = true
  · rw [if_pos c1]; exact steps_hmTestFR s
  rw [if_neg c1]
  by_cases c2 : (b2 &&& 0x07 == 0x07) = true
  · rw [if_pos c2]; exact steps_hmStartDT trivial s
  rw [if_neg c2]
  by_cases c3 : (b2 &&& 0x13 == 0x13) = true
  · rw [if_pos c3]; exact steps_hmStopDT trivial s
  rw [if_neg c3]
  by_cases c4 : (b2 &&& 0x83 == 0x83) = true
  · rw [if_pos c4]; exact (Steps.upd (.timers _ _ _ _ _ _)).trans (steps_t3upd _)
  rw [if_neg c4]
  by_cases c5 : (b2 == 0x01) = true
  · rw [if_pos c5]; exact steps_hmS trivial s buf
  · rw [if_neg c5]; exact .refl s

theorem steps_handleMessage (s : Slave) (buf : List Nat) :
    Steps .iframe i s (handleMessage s i buf).1 ∨ Steps .control i s (handleMessage s i buf).1 := by
  rcases handleMessage_cases s i buf with ⟨_, e⟩ | ⟨_, st⟩
  · rw [e]; exact .inl (steps_handleI s buf)
  · exact .inr st

theorem steps_receiveMessage (s : Slave) : Steps K i s (receiveMessage s i).1 := by
  unfold receiveMessage
  exact .upd (.io _ _ _)

theorem steps_ackIfW (s : Slave) : Steps K i s (ackIfW s i) := by
  unfold ackIfW
  extract_lets c
  split
  · exact (Steps.upd (.acked _ _)).trans (steps_sendS _)
  · exact .refl s

/-- `handleMessage` and the `w` test are left as they are: the bound on unacknowledged APDUs (Lemmas/Srv104Unconf.lean)
holds only after the test, so it cannot be had atom by atom -/
theorem handleTcpConnection_shape (s : Slave) (i : Nat) :
    (∀ K, Steps K i s (handleTcpConnection s i)) ∨
    ∃ s2 m t, (∀ K, Steps K i s s2) ∧ (∀ K, Steps K i (handleMessage s2 i m).1 t) ∧
      handleTcpConnection s i = ackIfW t i := by
  unfold handleTcpConnection
  have h1 := fun K => steps_receiveMessage (K := K) (i := i) s
  generalize receiveMessage s i = r at h1
  obtain ⟨s1, rr, msg⟩ := r
  dsimp only at h1
  simp (config := { zeta := false }) only []
  extract_lets c0 s2 c3 s4
  have h2 : ∀ K, Steps K i s s2 := fun K => by
    dsimp only [s2]; split
    · exact (h1 K).trans (.upd (.stop _))
    · exact h1 K
  split
  · refine .inr ⟨s2, msg, s4, h2, fun K => ?_, rfl⟩
    dsimp only [s4]; split
    · exact .upd (.stop _)
    · exact .refl _
  · exact .inl h2

theorem steps_handleTcpConnection (s : Slave) :
    Steps .iframe i s (handleTcpConnection s i) ∨ Steps .control i s (handleTcpConnection s i) := by
  rcases handleTcpConnection_shape s i with h | ⟨s2, m, t, h2, h4, e⟩
  · exact .inl (h _)
  · rw [e]
    rcases steps_handleMessage (i := i) s2 m with h | h
    · exact .inl ((((h2 _).trans h).trans (h4 _)).trans (steps_ackIfW t))
    · exact .inr ((((h2 _).trans h).trans (h4 _)).trans (steps_ackIfW t))

theorem steps_sendWaitingHigh : ∀ (fuel : Nat) (s : Slave), (s.conn i).state = 1 →
    Steps .periodic i s (sendWaitingHigh s i fuel).1 := by
  intro fuel
  induction fuel with
  | zero => intro s _; exact .refl s
  | succ n ih =>
    intro s hst
    unfold sendWaitingHigh
    simp (config := { zeta := false }) only []
    extract_lets g c s1
    split
    · split
      · exact .refl s
      · rename_i hnf
        have h1 : Steps .periodic i s s1 := .grp (.unpark _)
        split
        · rename_i a _
          extract_lets s2
          have h2 : Steps .periodic i s s2 :=
            h1.trans (.one (.sendI a none trivial ((Bool.not_eq_true _).mp hnf) hst))
          split
          · exact h2
          · exact h2.trans (ih _ ((h2.started_iff id id).2 hst))
        · exact h1
    · exact .refl s

theorem steps_sendWaitingASDUs (s : Slave) (hst : (s.conn i).state = 1) : Steps .periodic i s (sendWaitingASDUs s i) := by
  unfold sendWaitingASDUs
  have h1 := steps_sendWaitingHigh (i := i) ((s.grp (s.gidx i)).highQ.count + 1) s hst
  generalize sendWaitingHigh s i ((s.grp (s.gidx i)).highQ.count + 1) = r at h1
  obtain ⟨s1, cont⟩ := r
  simp (config := { zeta := false }) only [] at h1 ⊢
  extract_lets c g s2
  split
  · exact h1
  split
  · exact h1
  rename_i hnf
  have h2 : Steps .periodic i s s2 := h1.trans (.grp (.fetch _))
  split
  · exact h2.trans (.one (.sendI _ _ trivial ((Bool.not_eq_true _).mp hnf) ((h1.started_iff id id).2 hst)))
  · exact h2

theorem steps_periodic (s : Slave) : Steps .periodic i s (periodic s i) := by
  unfold periodic
  extract_lets s1
  have h1 : Steps .periodic i s s1 := by
    dsimp only [s1]; split
    · rename_i h; exact steps_sendWaitingASDUs s h
    · exact .refl s
  have h2 := h1.trans (steps_handleTimeouts s1)
  generalize handleTimeouts s1 i = r at h2
  obtain ⟨s2, ok⟩ := r
  dsimp (config := { zeta := false }) only at h2 ⊢
  split
  · exact h2.trans (.upd (.stop _))
  · exact h2

end

theorem reap_eq (t : Slave) (j : Nat) : ∃ gs, reap t j =
    { t with conns := t.conns.set j { t.conn j with isUsed := false, state := 0 }, groups := gs,
             openConnections := t.openConnections - 1, log := t.log ++ [.ev j "CLOSED"] } := by
  obtain ⟨gs, e⟩ := resetUnconfirmed_eq (emit t (.ev j "CLOSED")) j
  exact ⟨gs, by unfold reap; simp only [e]; rfl⟩

theorem reap_conns (t : Slave) (j : Nat) :
    (reap t j).conns = (t.setConn j { t.conn j with isUsed := false, state := 0 }).conns := by
  obtain ⟨gs, e⟩ := reap_eq t j; rw [e]; rfl

theorem reap_log (t : Slave) (j : Nat) : (reap t j).log = t.log ++ [Obs.ev j "CLOSED"] := by
  obtain ⟨gs, e⟩ := reap_eq t j; rw [e]

theorem reap_p (t : Slave) (j : Nat) : (reap t j).p = t.p := by
  obtain ⟨gs, e⟩ := reap_eq t j; rw [e]

/-- the branch of `accept` that admits the pending connection into the free slot `i`, on the state from which the
pending socket and the answer of the application have been taken -/
def openSlot (s : Slave) (i : Nat) (sk : Sock) (g : Nat) : Slave :=
  let s := if s.p.mode = 1 then
      let gr := s.grp i
      s.setGrp i { gr with lowQ := gr.lowQ.initialize, highQ := gr.highQ.reset }
    else s
  let s := initConn s i sk g
  let s := { s with openConnections := s.openConnections + 1 }
  let s := s.setConn i { s.conn i with isRunning := true }
  emit s (.ev i "OPENED")

/-- the record `MasterConnection_init` and `accept` leave in a slot -/
def Conn.opened (c : Conn) (p : Params) (now : Nat) (sk : Sock) (g : Nat) : Conn :=
  { c with sock := sk, isUsed := true, isRunning := true, vs := 0, vr := 0, state := 0, recvBuf := [], maxSent := p.k,
           unconf := 0, lastConf := none, t2Triggered := false, win := [], nextT3 := now + p.t3 * 1000,
           waitingTestFR := false, group := g }

theorem openSlot_eq (s : Slave) (i : Nat) (sk : Sock) (g : Nat) (hi : i < s.conns.length) : ∃ gs, openSlot s i sk g =
    { s with conns := s.conns.set i ((s.conn i).opened s.p s.now sk g), groups := gs,
             openConnections := s.openConnections + 1, log := s.log ++ [.ev i "OPENED"] } := by
  unfold openSlot initConn
  extract_lets gr s1 c c1 s2 gi g1 g2 s3 s4 src s5
  have h1 : s1.conns = s.conns ∧ s1.p = s.p ∧ s1.now = s.now ∧ s1.openConnections = s.openConnections ∧
      s1.pending = s.pending ∧ s1.acceptAnswers = s.acceptAnswers ∧ s1.log = s.log := by
    dsimp only [s1]; split <;> exact ⟨rfl, rfl, rfl, rfl, rfl, rfl, rfl⟩
  have e : src = c1 := conn_setConn s1 i c1 (by rw [h1.1]; exact hi)
  refine ⟨s5.groups, ?_⟩
  have hc : c = s.conn i := by dsimp only [c]; unfold Slave.conn; rw [h1.1]
  show ({ p := s1.p, now := s1.now, conns := (s1.conns.set i c1).set i { src with isRunning := true }, groups := s5.groups,
          openConnections := s1.openConnections + 1, pending := s1.pending, acceptAnswers := s1.acceptAnswers,
          log := s1.log ++ [Obs.ev i "OPENED"] } : Slave) = _
  rw [List.set_set, e, h1.1, h1.2.1, h1.2.2.1, h1.2.2.2.1, h1.2.2.2.2.1, h1.2.2.2.2.2.1, h1.2.2.2.2.2.2]
  dsimp only [c1, Conn.opened]
  rw [hc, h1.2.1, h1.2.2.1]

theorem openSlot_conns (s : Slave) (i : Nat) (sk : Sock) (g : Nat) (hi : i < s.conns.length) :
    (openSlot s i sk g).conns = (s.setConn i ((s.conn i).opened s.p s.now sk g)).conns := by
  obtain ⟨gs, e⟩ := openSlot_eq s i sk g hi; rw [e]; rfl

theorem openSlot_log (s : Slave) (i : Nat) (sk : Sock) (g : Nat) (hi : i < s.conns.length) :
    (openSlot s i sk g).log = s.log ++ [Obs.ev i "OPENED"] := by
  obtain ⟨gs, e⟩ := openSlot_eq s i sk g hi; rw [e]

theorem openSlot_p (s : Slave) (i : Nat) (sk : Sock) (g : Nat) (hi : i < s.conns.length) : (openSlot s i sk g).p = s.p := by
  obtain ⟨gs, e⟩ := openSlot_eq s i sk g hi; rw [e]

theorem openSlot_conn (s : Slave) (i : Nat) (sk : Sock) (g : Nat) (hi : i < s.conns.length) (j : Nat) :
    (openSlot s i sk g).conn j = if j = i then (s.conn i).opened s.p s.now sk g else s.conn j := by
  obtain ⟨gs, e⟩ := openSlot_eq s i sk g hi
  rw [e]
  show (s.setConn i _).conn j = _
  split
  · rename_i h; rw [h, conn_setConn s i _ hi]
  · rename_i h; exact conn_setConn_ne s i j _ h

theorem accept_cases (s : Slave) :
    ∃ pd aa, accept s = { s with pending := pd, acceptAnswers := aa } ∨
      ∃ i sk g, i < s.conns.length ∧ (s.conn i).isUsed = false ∧
        accept s = openSlot { s with pending := pd, acceptAnswers := aa } i sk g := by
  unfold accept
  split
  · split
    · exact ⟨_, _, Or.inl rfl⟩
    · rename_i sk rest _
      extract_lets s0
      split
      rename_i answer s1 heq
      obtain ⟨aa, hs1⟩ : ∃ aa, s1 = { s with pending := rest, acceptAnswers := aa } := by
        have e := (congrArg Prod.snd heq).symm
        dsimp only at e
        rw [e]
        split
        · exact ⟨_, rfl⟩
        · exact ⟨_, rfl⟩
      subst hs1
      split
      · exact ⟨_, _, Or.inl rfl⟩
      · extract_lets free grp
        have hfree : ∀ i, free = some i → i < s.conns.length ∧ (s.conn i).isUsed = false := by
          intro i hi
          have hu := List.find?_some hi
          have hu : (s.conn i).isUsed = false := (Bool.not_eq_true' _).mp hu
          exact ⟨by simpa using List.mem_of_find?_eq_some hi, hu⟩
        clear_value free grp
        split
        · rename_i g i
          exact ⟨_, _, Or.inr ⟨i, sk, g, (hfree i rfl).1, (hfree i rfl).2, rfl⟩⟩
        · exact ⟨_, _, Or.inl rfl⟩
  · exact ⟨_, _, Or.inl rfl⟩

theorem p2_handleClientConnections (P : Slave → Prop)
    (htcp : ∀ t j, (t.conn j).isUsed = true → P t → P (handleTcpConnection t j))
    (hper : ∀ t j, (t.conn j).isUsed = true → P t → P (periodic t j))
    (hreap : ∀ t j, (t.conn j).isUsed = true → P t → P (reap t j)) (s : Slave) (h : P s) : P (handleClientConnections s) := by
  unfold handleClientConnections
  split
  · extract_lets idx
    split
    rename_i s1 anyRunning ready heq
    have i1 : P s1 := by
      have e := (congrArg Prod.fst heq).symm
      dsimp only at e
      rw [e]
      refine p_foldl3 _ ?_ _ (s, false, false) h
      intro acc j hacc
      obtain ⟨t, anyR, rdy⟩ := acc
      dsimp only at hacc
      dsimp only
      split
      · rename_i hu
        split
        · exact hacc
        · exact hreap t j hu hacc
      · exact hacc
    extract_lets s2
    have i2 : P s2 := by
      dsimp only [s2]
      split
      · refine p_foldl _ ?_ _ _ i1
        intro t j ht
        split
        · rename_i hu
          exact htcp t j hu ht
        · exact ht
      · exact i1
    refine p_foldl _ ?_ _ _ i2
    intro t j ht
    split
    · rename_i hu
      simp only [Bool.and_eq_true] at hu
      exact hper t j hu.1 ht
    · exact ht
  · exact h

theorem hcc_inv {P : Slave → Prop} (hatom : ∀ i t u, (t.conn i).isUsed = true → P t → Atom .all i t u → P u)
    (hreap : ∀ t j, (t.conn j).isUsed = true → P t → P (reap t j)) (s : Slave) (h : P s) :
    P (handleClientConnections s) :=
  p2_handleClientConnections P
    (fun t j hu ht => by
      rcases steps_handleTcpConnection (i := j) t with st | st <;>
        exact (st.mono (Caps.le_all _)).inv_used (hatom j) hu ht)
    (fun t j hu ht => ((steps_periodic (i := j) t).mono (Caps.le_all _)).inv_used (hatom j) hu ht) hreap s h

end Iec.Srv104
