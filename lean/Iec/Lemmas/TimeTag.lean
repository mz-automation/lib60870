import Iec.Model.TimeTag
import Iec.Lemmas.Bits
/-
Helper lemmas for C19: what the getters can observe of a time tag (`Tag.fields`, `Tag.spare`), and the
normal form in which the setters' effect on it is decided.
-/
namespace Iec.TimeTag
open Iec.Bits

/-- Everything the public getters of a CP56Time2a can observe. -/
structure Fields where
  ms : Nat
  sec : Nat
  min : Nat
  iv : Bool
  sb : Bool
  hour : Nat
  su : Bool
  dow : Nat
  dom : Nat
  month : Nat
  year : Nat
  deriving DecidableEq, Repr

def Tag.fields (r : Tag) : Fields :=
  { ms := getMillisecond r, sec := getSecond r, min := getMinute r, iv := isInvalid r,
    sb := isSubstituted r, hour := getHour r, su := isSummerTime r, dow := getDayOfWeek r,
    dom := getDayOfMonth r, month := getMonth r, year := getYear r }

/-- the spare bits no getter shows (b3 bits 5-6, b5 bits 4-7, b6 bit 7) are part of
the record as well: setters must not disturb them -/
def Tag.spare (r : Tag) : Nat × Nat × Nat := (r.b3 / 32 % 4, r.b5 / 16, r.b6 / 128)

theorem Tag.ext_fields {r s : Tag} (hr : r.WF) (hs : s.WF)
    (hf : r.fields = s.fields) (hsp : r.spare = s.spare) : r = s := by
  -- octet by octet, each from the bit ranges that getters and spare bits show of it; those with three
  -- ranges first, while no other octet's facts are in sight of `omega`
  have k01 : ∀ a b c d : Nat, a < 256 → c < 256 → (a + b * 256) % 1000 = (c + d * 256) % 1000 →
      (a + b * 256) / 1000 = (c + d * 256) / 1000 → a = c ∧ b = d := by omega
  have k2 : ∀ x y : Nat, x < 256 → y < 256 → x % 64 = y % 64 → x / 128 % 2 = y / 128 % 2 →
      x / 64 % 2 = y / 64 % 2 → x = y := by omega
  have k3 : ∀ x y : Nat, x < 256 → y < 256 → x % 32 = y % 32 → x / 128 % 2 = y / 128 % 2 →
      x / 32 % 4 = y / 32 % 4 → x = y := by omega
  obtain ⟨r0, r1, r2, r3, r4, r5, r6⟩ := r
  obtain ⟨s0, s1, s2, s3, s4, s5, s6⟩ := s
  simp only [Tag.WF] at hr hs
  obtain ⟨h0, h1, h2, h3, h4, h5, h6⟩ := hr
  obtain ⟨g0, g1, g2, g3, g4, g5, g6⟩ := hs
  simp only [Tag.fields, Tag.spare, getMillisecond, getSecond, getMinute, isInvalid, isSubstituted,
    getHour, isSummerTime, getDayOfWeek, getDayOfMonth, getMonth, getYear, Fields.mk.injEq,
    Prod.mk.injEq, and_63, and_31, and_15, and_127, and_bit 7 _ (m := 128) rfl, and_bit 6 _ (m := 64) rfl,
    (flag_inj _ _ (m := 128) (by decide)).1, (flag_inj _ _ (m := 64) (by decide)).2,
    and_e0 h4, and_e0 g4, shr5, Nat.mul_div_cancel _ (show 0 < 32 by decide)] at hf hsp
  obtain ⟨⟨f0, f1, f2, f3, f4, f5, f6, f7, f8, f9, f10⟩, p3, p5, p6⟩ := And.intro hf hsp
  obtain ⟨rfl, rfl⟩ := k01 _ _ _ _ h0 g0 f0 f1
  rw [k2 _ _ h2 g2 f2 f3 f4, k3 _ _ h3 g3 f5 f6 p3, eq_of_div_mod 32 f8 f7, eq_of_div_mod 16 f9 p5,
    eq_of_div_mod 128 f10 p6]

def ms16 (r : Tag) : Nat := r.b0 + r.b1 * 256

/-- the spare bits as shifts and masks: a setter's masks distribute over them -/
theorem Tag.spare_shift (r : Tag) : r.spare = (r.b3 >>> 5 &&& 3, r.b5 >>> 4, r.b6 >>> 7) := by
  simp only [Tag.spare, Nat.shiftRight_eq_div_pow, and_3]

macro "tag_setter" : tactic => `(tactic|
  mask_simp [Tag.WF, Tag.fields, Tag.spare_shift, getMillisecond, getSecond, getMinute, isInvalid,
    isSubstituted, getHour, isSummerTime, getDayOfWeek, getDayOfMonth, getMonth, getYear, setMinute,
    setInvalid, setSubstituted, setHour, setSummerTime, setDayOfWeek, setDayOfMonth, setMonth, setYear,
    u8, Fields.mk.injEq, Prod.mk.injEq, Nat.shiftRight_and_distrib, Nat.shiftRight_or_distrib,
    Nat.reduceShiftRight])

/-- the two low octets hold one 16-bit number: milliseconds and seconds are its remainder and
quotient by 1000 -/
theorem set16 (r : Tag) (hr : r.WF) (x : Nat) (hx : x < 65536) :
    let s : Tag := { r with b0 := u8 (x &&& 0xff), b1 := u8 ((x / 0x100) &&& 0xff) }
    s.WF ∧ s.fields = { r.fields with ms := x % 1000, sec := x / 1000 } ∧ s.spare = r.spare := by
  have e : x % 256 % 256 + x / 256 % 256 % 256 * 256 = x := by omega
  obtain ⟨h0, h1, h⟩ := hr
  simp only [Tag.WF, Tag.fields, Tag.spare, getMillisecond, getSecond, u8, and_255, e]
  exact ⟨⟨Nat.mod_lt _ (by omega), Nat.mod_lt _ (by omega), h⟩, rfl, trivial⟩

end Iec.TimeTag
