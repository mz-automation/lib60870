/-
Where I-format APDUs are written (C07): the I-format APDUs that the work for connection `j` (reception, periodic tasks)
appends to the log are on connection `j`, and `j` is STARTED at that moment (`IExt`): `sendI` is the one atom that writes
them, and it is made only on a started connection.  With `LInv` (Lemmas/Srv104LifeLog.lean) this gives, over every
history: an I-format APDU is written on a connection only while the last event of its slot is ACTIVATED (`JInv`).
-/
import Iec.Lemmas.Srv104LifeLog
namespace Iec.Srv104
open Iec.KWindow Iec.Queues

def IExt (j : Nat) (ok : Prop) (s s' : Slave) : Prop :=
  ∃ l, s'.log = s.log ++ l ∧ ∀ c b, Obs.tx c b ∈ l → isI b → (c = j ∧ ok)

theorem IExt.refl (j : Nat) (ok : Prop) (s : Slave) : IExt j ok s s := ⟨[], by simp, by simp⟩

theorem IExt.trans {j : Nat} {ok : Prop} {a b c : Slave} (h1 : IExt j ok a b) (h2 : IExt j ok b c) : IExt j ok a c := by
  obtain ⟨l1, e1, p1⟩ := h1
  obtain ⟨l2, e2, p2⟩ := h2
  refine ⟨l1 ++ l2, by rw [e2, e1, List.append_assoc], ?_⟩
  intro c' b' hm hi
  rcases List.mem_append.mp hm with hm | hm
  · exact p1 c' b' hm hi
  · exact p2 c' b' hm hi

theorem IExt.mono {j : Nat} {ok ok' : Prop} {a b : Slave} (h : IExt j ok a b) (hk : ok → ok') : IExt j ok' a b := by
  obtain ⟨l, e, p⟩ := h
  exact ⟨l, e, fun c b hm hi => ⟨(p c b hm hi).1, hk (p c b hm hi).2⟩⟩

theorem iext_atom {K : Caps} {j : Nat} {s t : Slave} (a : Atom K j s t) :
    IExt j ((∃ q, K.send q) ∧ (s.conn j).state = 1) s t := by
  rcases a.log_cases with e | ⟨_, l, e, hl⟩ | ⟨o, n, e⟩ | ⟨b, _, e⟩ | ⟨b, q, hq, hs, e⟩
  · exact ⟨[], by rw [e, List.append_nil], by simp⟩
  · exact ⟨l, e, fun c b hm _ => nomatch hl _ hm⟩
  · exact ⟨[o], e, fun c b hm hi => absurd hi (n.not_itx (List.mem_singleton.mp hm).symm)⟩
  · exact ⟨_, e, fun c b hm _ => by simp at hm⟩
  · exact ⟨_, e, fun c b' hm _ => by simp at hm; exact ⟨hm.1, ⟨q, hq⟩, hs⟩⟩

/-- `h`: a part of the model that can send makes neither `deact` nor `actv`, so that `started_iff` takes the state at
each `sendI` back to the beginning -/
theorem iext_steps {K : Caps} {j : Nat} (h : (∀ q, ¬ K.send q) ∨ (¬ K.deact ∧ ¬ K.actv)) {s t : Slave}
    (st : Steps K j s t) : IExt j ((∃ q, K.send q) ∧ (s.conn j).state = 1) s t := by
  induction st with
  | refl => exact IExt.refl _ _ _
  | tail st' a ih =>
    refine ih.trans ((iext_atom a).mono fun ⟨⟨q, hq⟩, hs⟩ => ⟨⟨q, hq⟩, ?_⟩)
    exact h.elim (fun hn => absurd hq (hn q)) fun hn => (st'.started_iff hn.1 hn.2).1 hs

theorem iext_handleTcpConnection (s : Slave) (j : Nat) :
    IExt j ((s.conn j).state = 1) s (handleTcpConnection s j) := by
  rcases steps_handleTcpConnection (i := j) s with st | st
  · exact (iext_steps (.inr ⟨id, id⟩) st).mono And.right
  · exact (iext_steps (.inl fun _ => id) st).mono And.right

theorem iext_periodic (s : Slave) (j : Nat) : IExt j ((s.conn j).state = 1) s (periodic s j) :=
  (iext_steps (.inr ⟨id, id⟩) (steps_periodic s)).mono And.right

/-- 2: the last event of the slot is ACTIVATED (`lifeStep`) -/
def IInv (s : Slave) : Prop := LogAll (fun l1 c _ => lifeOf l1 c = 2) s.log

def JInv (s : Slave) : Prop := LInv s ∧ IInv s

/-- `sendI` is made on a started connection in use, whose last event, by `LInv`, is ACTIVATED -/
theorem jinv_atom {K : Caps} {i : Nat} {t u : Slave} (hu : (t.conn i).isUsed = true) (h : JInv t) (a : Atom K i t u) :
    JInv u := by
  refine ⟨linv_atom hu h.1 a, ?_⟩
  unfold IInv
  rcases a.log_cases with e | ⟨_, l, e, hl⟩ | ⟨o, n, e⟩ | ⟨b, _, e⟩ | ⟨b, q, _, hs, e⟩ <;> rw [e]
  · exact h.2
  · exact h.2.append_notI fun c b hm => nomatch hl _ hm
  · exact h.2.snoc fun c b ho hi => absurd hi (n.not_itx ho)
  · exact h.2.snoc fun _ _ ho => nomatch ho
  · refine h.2.snoc fun c b' ho _ => ?_
    cases ho
    rw [h.1 i]; simp [expected, hu, hs]

theorem jinv_apply (s : Slave) (op : LOp) (h : JInv s) : JInv (op.apply s) := by
  refine ⟨linv_apply s op h.1, ?_⟩
  cases op with
  | tick =>
    refine (tick_inv (P := JInv) (fun i t u hu ht a => jinv_atom hu ht a) (fun t j hu ht => ⟨linv_reap t j hu ht.1, ?_⟩)
      (fun t pd aa ht => ht) (fun t i sk g hi hu ht => ⟨linv_openSlot t i sk g hi hu ht.1, ?_⟩) s h).2 <;> unfold IInv
    · rw [reap_log]; exact ht.2.snoc fun _ _ ho => nomatch ho
    · rw [openSlot_log t i sk g hi]; exact ht.2.snoc fun _ _ ho => nomatch ho
  | enqueue a => exact h.2
  | env e => unfold IInv; rw [show ((LOp.env e).apply s).log = s.log from e.log s]; exact h.2

theorem run_jinv (p : Params) (gs : List (String × List (Bool × List Nat))) (ops : List LOp) :
    JInv (ops.foldl LOp.apply (create p gs)) :=
  run_inv_L ⟨fun j => by rw [create_conn]; rfl, LogAll.nil⟩ jinv_apply ops

end Iec.Srv104
