import Iec.Model.Layout
import Iec.Lemmas.Bits
/-
Field-level lemmas: little-endian round trip, lengths, and
`decodeFields (encodeFields vals ++ rest) = (vals, rest)` for well-formed stored values.
-/
namespace Iec.Layout
open Iec.Bits

theorem leBytes_length (n v : Nat) : (leBytes n v).length = n := by
  induction n generalizing v with
  | zero => rfl
  | succ n ih => simp [leBytes, ih]

theorem leVal_leBytes (n v : Nat) (h : v < 256 ^ n) : leVal (leBytes n v) = v := by
  induction n generalizing v with
  | zero => simp [leBytes, leVal] at *; omega
  | succ n ih =>
    simp only [leBytes, leVal]
    have : v / 256 < 256 ^ n := by
      rw [Nat.pow_succ] at h
      exact Nat.div_lt_of_lt_mul (by rw [Nat.mul_comm]; exact h)
    rw [ih _ this]; omega

theorem leBytes_lt (n v : Nat) : ∀ b ∈ leBytes n v, b < 256 := by
  induction n generalizing v with
  | zero => simp [leBytes]
  | succ n ih =>
    intro b hb
    simp only [leBytes, List.mem_cons] at hb
    rcases hb with rfl | hb
    · omega
    · exact ih _ b hb

theorem leVal_lt (bs : List Nat) (h : ∀ b ∈ bs, b < 256) : leVal bs < 256 ^ bs.length := by
  induction bs with
  | nil => simp [leVal]
  | cons b bs ih =>
    simp only [leVal, List.length_cons, Nat.pow_succ]
    have hb : b < 256 := h b (by simp)
    have := ih (fun x hx => h x (by simp [hx]))
    omega

theorem leBytes_leVal (bs : List Nat) (h : ∀ b ∈ bs, b < 256) : leBytes bs.length (leVal bs) = bs := by
  induction bs with
  | nil => rfl
  | cons b bs ih =>
    have hb : b < 256 := h b (by simp)
    simp only [List.length_cons, leBytes, leVal]
    have e1 : (b + 256 * leVal bs) % 256 = b := by omega
    have e2 : (b + 256 * leVal bs) / 256 = leVal bs := by omega
    rw [e1, e2, ih (fun x hx => h x (by simp [hx]))]

/-- SIQ / DIQ octet: the quality (a multiple of 16) and the value under the mask `n` share no bit -/
theorem quality_octet (q v n : Nat) (hn : n = 1 ∨ n = 3) (hq : q < 256) (hq16 : q % 16 = 0) :
    ((q &&& 0xf0) + (v &&& n)) % 256 &&& n = v &&& n ∧ ((q &&& 0xf0) + (v &&& n)) % 256 &&& 0xf0 = q := by
  have e : q &&& 240 = q := by rw [and_f0 hq]; omega
  rcases hn with rfl | rfl
  · rw [and_add_and 4 q v (m := 240) (n := 1) rfl (by decide)]
    simp only [mod_256, Nat.and_or_distrib_right, Nat.and_assoc, Nat.reduceAnd, Nat.and_zero, Nat.zero_or,
      Nat.or_zero, true_and]
    exact e
  · rw [and_add_and 4 q v (m := 240) (n := 3) rfl (by decide)]
    simp only [mod_256, Nat.and_or_distrib_right, Nat.and_assoc, Nat.reduceAnd, Nat.and_zero, Nat.zero_or,
      Nat.or_zero, true_and]
    exact e

/-! Facts about the field codec go by functional induction on `WFVals` or `encodeFields`: one case
per field kind with matching stored values, and the hypothesis is `False` in the two others. -/

theorem wfVals_iff (fs : List FieldSpec) (vs : List Nat) : wfVals fs vs = true ↔ WFVals fs vs := by
  fun_induction wfVals fs vs <;> simp [WFVals, *, and_assoc]

theorem encodeFields_length (fs : List FieldSpec) (vs bs : List Nat) (h : encodeFields fs vs = some bs) :
    bs.length = fieldsSize fs vs ∧ ∀ b ∈ bs, b < 256 := by
  fun_induction encodeFields fs vs generalizing bs
  case case1 => cases h; exact ⟨rfl, nofun⟩
  case case2 | case7 => cases h
  all_goals
    obtain ⟨tl, htl, rfl⟩ := Option.map_eq_some_iff.mp h
    rename_i ih
    obtain ⟨l, lt⟩ := ih tl htl
    simp only [fieldsSize, List.length_append, List.length_cons, leBytes_length, l, List.forall_mem_append,
      List.forall_mem_cons]
  · exact ⟨trivial, leBytes_lt _ _, lt⟩
  · exact ⟨by omega, by omega, lt⟩
  · exact ⟨by omega, by omega, lt⟩
  · exact ⟨by omega, ⟨by omega, leBytes_lt _ _⟩, lt⟩

theorem encodeFields_isSome (fs : List FieldSpec) (vs : List Nat) (h : WFVals fs vs) :
    (encodeFields fs vs).isSome = true := by
  fun_induction WFVals fs vs <;> simp_all [encodeFields]

theorem encodeFields_wf (fs : List FieldSpec) (vs : List Nat) (h : WFVals fs vs) :
    ∃ bs, encodeFields fs vs = some bs ∧ bs.length = fieldsSize fs vs ∧ ∀ b ∈ bs, b < 256 := by
  obtain ⟨bs, e⟩ := Option.isSome_iff_exists.mp (encodeFields_isSome fs vs h)
  exact ⟨bs, e, encodeFields_length fs vs bs e⟩

theorem take_drop_leBytes (n v : Nat) (rest : List Nat) :
    ¬ (leBytes n v ++ rest).length < n ∧ (leBytes n v ++ rest).take n = leBytes n v ∧
      (leBytes n v ++ rest).drop n = rest :=
  ⟨by simp [leBytes_length], List.take_left' (leBytes_length n v), List.drop_left' (leBytes_length n v)⟩

theorem decode_encode_fields (fs : List FieldSpec) (vs : List Nat) (h : WFVals fs vs)
    (bs : List Nat) (he : encodeFields fs vs = some bs) (rest : List Nat) :
    decodeFields fs (bs ++ rest) = some (vs, rest) := by
  fun_induction WFVals fs vs generalizing bs
  case case1 => cases he; rfl
  case case2 | case7 => exact h.elim
  all_goals
    simp only [encodeFields, Option.map_eq_some_iff] at he
    obtain ⟨tl, htl, rfl⟩ := he
  case case3 n fs v vs ih =>
    obtain ⟨h1, h2, h3⟩ := take_drop_leBytes n v (tl ++ rest)
    simp only [decodeFields, List.append_assoc, if_neg h1, h2, h3, ih h.2 tl htl, leVal_leBytes n v h.1,
      Option.map_some]
  case case4 fs v q vs ih =>
    obtain ⟨k1, k2⟩ := quality_octet q v 1 (.inl rfl) h.2.1 h.2.2.1
    simp only [List.cons_append, decodeFields, ih h.2.2.2 tl htl, Option.map_some]
    rw [k1, k2, and_low 1 (show v < 2 ^ 1 by omega)]
  case case5 fs v q vs ih =>
    obtain ⟨k1, k2⟩ := quality_octet q v 3 (.inr rfl) h.2.1 h.2.2.1
    simp only [List.cons_append, decodeFields, ih h.2.2.2 tl htl, Option.map_some]
    rw [k1, k2, and_low 2 (show v < 2 ^ 2 by omega)]
  case case6 fs los d vs ih =>
    obtain ⟨h1, h2, h3⟩ := take_drop_leBytes los d (tl ++ rest)
    simp only [List.cons_append, List.append_assoc, decodeFields, Nat.mod_eq_of_lt h.1, if_neg h1, h2, h3,
      ih h.2.2 tl htl, leVal_leBytes los d h.2.1, Option.map_some]

end Iec.Layout
