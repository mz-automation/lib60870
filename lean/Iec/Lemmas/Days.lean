import Iec.Model.TimeTag
/-
Calendar facts for C19: for every day d of 2000-01-01 .. 2099-12-31 (days 10957 .. 47481 since the epoch) the civil date
computed by `civilFromDays` has year 2000..2099, month 1..12, day 1..31, and the closed-form day count of `my_mktime` maps
it back to d.  The window lies in the last 60 days of one 400-year era and the first century of the next, so no
skipped leap year occurs in it: year, day of year, month and day are then linear facts about quotients by constants.
-/
namespace Iec.Days
open Iec.TimeTag

theorem month_day (doy : Nat) (h : doy < 366) :
    let mp := (5 * doy + 2) / 153
    mp < 12 ∧ 1 ≤ doy - (153 * mp + 2) / 5 + 1 ∧ doy - (153 * mp + 2) / 5 + 1 ≤ 31 ∧
    (mp + 4) * 153 / 5 + (doy - (153 * mp + 2) / 5 + 1) = doy + 123 ∧ (mp < 10 ↔ doy < 306) := by
  intro mp; omega

/-- year of era and day of year, first century of era 5 (from 2000-03-01): no skipped leap year -/
theorem year_era5 (doe : Nat) (h : doe < 36465) :
    let yoe := (doe - doe / 1460 + doe / 36524 - doe / 146096) / 365
    let doy := doe - (365 * yoe + yoe / 4 - yoe / 100)
    yoe < 100 ∧ doy < 366 ∧ doe = 365 * yoe + yoe / 4 + doy ∧ (yoe = 99 → doy < 306) := by
  intro yoe doy
  have hy : yoe = (doe - doe / 1460) / 365 := by
    have h1 : doe / 36524 = 0 := by omega
    have h2 : doe / 146096 = 0 := by omega
    simp only [yoe, h1, h2]; omega
  have hd : doy = doe - (365 * yoe + yoe / 4) := by
    have hy100 : yoe / 100 = 0 := by omega
    simp only [doy, hy100]; omega
  clear_value yoe doy
  subst hd
  omega

/-- the last 60 days of era 4 (2000-01-01 .. 2000-02-29) -/
theorem year_era4 (doe : Nat) (h1 : 146037 ≤ doe) (h2 : doe < 146097) :
    let yoe := (doe - doe / 1460 + doe / 36524 - doe / 146096) / 365
    let doy := doe - (365 * yoe + yoe / 4 - yoe / 100)
    yoe = 399 ∧ doy + 145731 = doe := by
  intro yoe doy
  have hy : yoe = 399 := by simp only [yoe]; omega
  refine ⟨hy, ?_⟩
  simp only [doy, hy]; omega

/-- the day count of `my_mktime` for the year `Y` and month `mp` counted from March: with them both cases of its month
test are the same sum -/
theorem count_eq (d Y mp dd doy : Nat) (hY1 : 1999 ≤ Y) (hY2 : Y ≤ 2099)
    (hinv : (mp + 4) * 153 / 5 + dd = doy + 123) (hD : d + 719483 = 365 * Y + Y / 4 + doy) :
    ((Y : Int) - 1900 - 69) * 365 + ((Y : Int) - 1900) / 4 - ((Y : Int) - 1900) / 100 * 3 / 4 +
      ((mp : Int) + 4) * 153 / 5 - 446 + (dd : Int) = (d : Int) := by
  have c1 : ((Y : Int) - 1900) / 100 * 3 / 4 = 0 := by omega
  have c2 : ((Y : Int) - 1900) / 4 = (Y : Int) / 4 - 475 := by omega
  rw [c1, c2]
  omega

/-- `Y` is the year counted from March, `mp` the month counted from March, `dd` the day of the month -/
theorem assemble (d Y mp dd doy : Nat) (hY1 : 1999 ≤ Y) (hY2 : Y ≤ 2099) (hmp : mp < 12)
    (hd1 : 1 ≤ dd) (hd31 : dd ≤ 31) (hinv : (mp + 4) * 153 / 5 + dd = doy + 123) (_hsplit : mp < 10 ↔ doy < 306)
    (hD : d + 719483 = 365 * Y + Y / 4 + doy)
    (hfirst : Y = 1999 → 306 ≤ doy) (hlast : Y = 2099 → doy < 306) :
    let m := if mp < 10 then mp + 3 else mp - 9
    let y := if m ≤ 2 then Y + 1 else Y
    2000 ≤ y ∧ y ≤ 2099 ∧ 1 ≤ m ∧ m ≤ 12 ∧ 1 ≤ dd ∧ dd ≤ 31 ∧
    mkDays ((y - 1900 : Nat) : Int) ((m - 1 : Nat) : Int) (dd : Int) = (d : Int) := by
  intro m y
  have cnt := count_eq d Y mp dd doy hY1 hY2 hinv hD
  by_cases hm : mp < 10
  · have em : m = mp + 3 := by simp [m, hm]
    have ey : y = Y := by simp only [y, em]; rw [if_neg (by omega)]
    rw [em, ey]
    refine ⟨by omega, by omega, by omega, by omega, hd1, hd31, ?_⟩
    have q : ¬ (((mp + 3 - 1 : Nat) : Int) < 2) := by omega
    have ey' : ((Y - 1900 : Nat) : Int) = (Y : Int) - 1900 := by omega
    have em' : ((mp + 3 - 1 : Nat) : Int) + 2 = (mp : Int) + 4 := by omega
    simp only [mkDays, q, if_false, ey', em']
    exact cnt
  · have em : m = mp - 9 := by simp [m, hm]
    have ey : y = Y + 1 := by simp only [y, em]; rw [if_pos (by omega)]
    rw [em, ey]
    refine ⟨by omega, by omega, by omega, by omega, hd1, hd31, ?_⟩
    have q : (((mp - 9 - 1 : Nat) : Int) < 2) := by omega
    have ey' : ((Y + 1 - 1900 : Nat) : Int) - 1 = (Y : Int) - 1900 := by omega
    have em' : ((mp - 9 - 1 : Nat) : Int) + 12 + 2 = (mp : Int) + 4 := by omega
    simp only [mkDays, q, if_true, ey', em']
    exact cnt

theorem civil_spec (d : Nat) (h1 : 10957 ≤ d) (h2 : d < 47482) :
    let c := civilFromDays d
    2000 ≤ c.1 ∧ c.1 ≤ 2099 ∧ 1 ≤ c.2.1 ∧ c.2.1 ≤ 12 ∧ 1 ≤ c.2.2 ∧ c.2.2 ≤ 31 ∧
    mkDays ((c.1 - 1900 : Nat) : Int) ((c.2.1 - 1 : Nat) : Int) (c.2.2 : Int) = (d : Int) := by
  simp only [civilFromDays]
  by_cases hc : d < 11017
  · have e4 : (d + 719468) / 146097 = 4 := by omega
    rw [e4]
    obtain ⟨hy, hdoy⟩ := year_era4 (d + 719468 - 4 * 146097) (by omega) (by omega)
    rw [hy]
    have hd' : d + 719468 - 4 * 146097 - (365 * 399 + 399 / 4 - 399 / 100) = d - 10651 := by omega
    rw [hd']
    obtain ⟨hmp, hd1, hd31, hinv, hsplit⟩ := month_day (d - 10651) (by omega)
    exact assemble d (399 + 4 * 400) _ _ (d - 10651) (by omega) (by omega) hmp hd1 hd31 hinv hsplit (by omega) (by omega) (by omega)
  · have e5 : (d + 719468) / 146097 = 5 := by omega
    rw [e5]
    obtain ⟨hy, hdoy, hdoe, hlast⟩ := year_era5 (d + 719468 - 5 * 146097) (by omega)
    generalize (d + 719468 - 5 * 146097 - (d + 719468 - 5 * 146097) / 1460 + (d + 719468 - 5 * 146097) / 36524 -
      (d + 719468 - 5 * 146097) / 146096) / 365 = yoe at *
    generalize hg : d + 719468 - 5 * 146097 - (365 * yoe + yoe / 4 - yoe / 100) = doy at *
    obtain ⟨hmp, hd1, hd31, hinv, hsplit⟩ := month_day doy hdoy
    exact assemble d (yoe + 5 * 400) _ _ doy (by omega) (by omega) hmp hd1 hd31 hinv hsplit (by omega) (by omega) (by omega)

end Iec.Days
