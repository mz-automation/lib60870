/-
"Remains buffered until acknowledged" at the level of one event ring: the operations the server applies to a ring while it
serves connections - handing out the next waiting entry, re-arming an entry, confirming an entry by reference - never remove
an entry or mark it confirmed, EXCEPT `markAsduAsConfirmed`, and that one only for the entry its reference (offset, id)
designates.  Relation `KeptX R q q'`: the entries of `q'` are those of `q` (same offsets, ids, octets, order) without a
prefix of entries named in `R`; position by position, an entry that was not confirmed is still not confirmed unless it is
named in `R` (`StKept`), and a confirmed entry stays confirmed (`CfKept`).
-/
import Iec.Lemmas.MsgQueue
namespace Iec.Queues

def ekey (x : MEntry) : Nat × Nat × List Nat := (x.1, x.2.id, x.2.data)

def StKept (R : List (Nat × Nat)) (L L' : List MEntry) : Prop :=
  ∀ (n : Nat) (x x' : MEntry), L[n]? = some x → L'[n]? = some x' → x.2.st ≠ 0 → (x'.2.st ≠ 0 ∨ (x.1, x.2.id) ∈ R)

def CfKept (L L' : List MEntry) : Prop :=
  ∀ (n : Nat) (x x' : MEntry), L[n]? = some x → L'[n]? = some x' → x.2.st = 0 → x'.2.st = 0

def KeptX (R : List (Nat × Nat)) (q q' : MsgQueue) : Prop :=
  ∀ up low, MqInv q up low → ∃ up' low' k, MqInv q' up' low' ∧
    (∀ x ∈ (up ++ low).take k, (x.1, x.2.id) ∈ R) ∧
    (up' ++ low').map ekey = ((up ++ low).drop k).map ekey ∧
    StKept R ((up ++ low).drop k) (up' ++ low') ∧
    CfKept ((up ++ low).drop k) (up' ++ low')

theorem KeptX.refl (R : List (Nat × Nat)) (q : MsgQueue) : KeptX R q q := fun up low h =>
  ⟨up, low, 0, h, by simp, rfl, fun _ _ _ h1 h2 hs => .inl (by cases h1.symm.trans h2; exact hs),
    fun _ _ _ h1 h2 hs => by cases h1.symm.trans h2; exact hs⟩

theorem KeptX.mono {R R' : List (Nat × Nat)} (hR : ∀ r ∈ R, r ∈ R') {q q' : MsgQueue} (h : KeptX R q q') : KeptX R' q q' := by
  intro up low hi
  obtain ⟨up', low', k, h1, h2, h3, h4, h5⟩ := h up low hi
  exact ⟨up', low', k, h1, fun x hx => hR _ (h2 x hx), h3, fun n x x' a b c => (h4 n x x' a b c).imp_right (hR _), h5⟩

theorem ekey_eq {x y : MEntry} (h : ekey x = ekey y) : x.1 = y.1 ∧ x.2.id = y.2.id := by
  unfold ekey at h
  simp only [Prod.mk.injEq] at h
  exact ⟨h.1, h.2.1⟩

theorem getElem?_map_eq {α β} {f : α → β} {L L' : List α} (h : L'.map f = L.map f) {n : Nat} {x : α} (hx : L[n]? = some x) :
    ∃ y, L'[n]? = some y ∧ f y = f x := by
  have := congrArg (·[n]?) h
  simp only [List.getElem?_map, hx, Option.map_some] at this
  cases hy : L'[n]? with
  | none => rw [hy] at this; cases this
  | some y => rw [hy] at this; exact ⟨y, rfl, by simpa using this⟩

theorem KeptX.trans {R : List (Nat × Nat)} {a b c : MsgQueue} (h1 : KeptX R a b) (h2 : KeptX R b c) : KeptX R a c := by
  intro up low hi
  obtain ⟨up1, low1, k1, i1, t1, m1, s1, c1⟩ := h1 up low hi
  obtain ⟨up2, low2, k2, i2, t2, m2, s2, c2⟩ := h2 up1 low1 i1
  -- the entry of the middle ring at the position of an entry of the first ring that was not dropped
  have mid : ∀ {n : Nat} {x : MEntry}, ((up ++ low).drop k1)[n]? = some x → ∃ y, (up1 ++ low1)[n]? = some y ∧ ekey y = ekey x :=
    fun hx => getElem?_map_eq m1 hx
  refine ⟨up2, low2, k1 + k2, i2, ?_, by rw [m2, ← List.drop_drop, List.map_drop, List.map_drop, m1], ?_, ?_⟩
  · -- the dropped prefix: the first k1 entries, then k2 entries whose keys are those of dropped entries of the middle ring
    intro x hx
    obtain ⟨n, hn⟩ := List.getElem?_of_mem hx
    rw [List.getElem?_take] at hn
    split at hn <;> try cases hn
    by_cases hk : n < k1
    · exact t1 x (List.mem_of_getElem? (by rw [List.getElem?_take, if_pos hk]; exact hn))
    · obtain ⟨y, hy, hky⟩ := mid (n := n - k1) (by rw [List.getElem?_drop, show k1 + (n - k1) = n by omega]; exact hn)
      obtain ⟨e1, e2⟩ := ekey_eq hky
      rw [← e1, ← e2]
      exact t2 y (List.mem_of_getElem? (by rw [List.getElem?_take, if_pos (show n - k1 < k2 by omega)]; exact hy))
  · intro n x x'' hx hx'' hs
    rw [← List.drop_drop, List.getElem?_drop] at hx
    obtain ⟨y, hy, hky⟩ := mid hx
    obtain ⟨e1, e2⟩ := ekey_eq hky
    rcases s1 (k2 + n) x y hx hy hs with hys | hr
    · exact (s2 n y x'' (by rw [List.getElem?_drop]; exact hy) hx'' hys).imp_right (by rw [e1, e2]; exact id)
    · exact .inr hr
  · intro n x x'' hx hx'' hs
    rw [← List.drop_drop, List.getElem?_drop] at hx
    obtain ⟨y, hy, _⟩ := mid hx
    exact c2 n y x'' (by rw [List.getElem?_drop]; exact hy) hx'' (c1 (k2 + n) x y hx hy hs)

theorem updSt_ekey (o st : Nat) (x : MEntry) : ekey (updSt o st x) = ekey x := by
  unfold updSt ekey; split <;> rfl

theorem kept_setState (R : List (Nat × Nat)) (q : MsgQueue) (o st : Nat)
    (hSt : ∀ e, q.get o = some e → e.st ≠ 0 → st ≠ 0 ∨ (o, e.id) ∈ R) (hCf : ∀ e, q.get o = some e → e.st = 0 → st = 0) :
    KeptX R q (q.setState o st) := by
  intro up low h
  -- position by position the new entry is the old one with the state changed, and the old one is what is stored at its offset
  have pos : ∀ {n : Nat} {x x' : MEntry}, ((up ++ low).drop 0)[n]? = some x → (up.map (updSt o st) ++ low.map (updSt o st))[n]? = some x' →
      x' = updSt o st x ∧ q.get x.1 = some x.2 := by
    intro n x x' h1 h2
    rw [← List.map_append, List.getElem?_map, show (up ++ low)[n]? = some x from h1] at h2
    exact ⟨by simpa using h2.symm, h.data x (List.mem_of_getElem? h1)⟩
  refine ⟨_, _, 0, setState_inv q up low h o st, by simp, ?_, ?_, ?_⟩
  · rw [← List.map_append, List.map_map]; exact List.map_congr_left fun x _ => updSt_ekey o st x
  · intro n x x' h1 h2 hs
    obtain ⟨rfl, hg⟩ := pos h1 h2
    unfold updSt
    split
    · rename_i hx; subst hx; exact hSt x.2 hg hs
    · exact .inl hs
  · intro n x x' h1 h2 hs
    obtain ⟨rfl, hg⟩ := pos h1 h2
    unfold updSt
    split
    · rename_i hx; subst hx; exact hCf x.2 hg hs
    · exact hs

theorem kept_removeFirst (R : List (Nat × Nat)) (q : MsgQueue) (o id : Nat) (e : QEntry) (hc : q.count > 0)
    (hf : q.first = some o) (hg : q.get o = some e) (hid : e.id = id) (hR : (o, id) ∈ R) : KeptX R q q.removeFirst := by
  intro up low h
  cases up with
  | nil => have := h.count_eq_zero.mpr ⟨rfl, h.lowup rfl⟩; omega
  | cons u0 rest =>
    have hfirst := (h.upper u0 rest rfl).1
    obtain rfl : u0.1 = o := by rw [hf] at hfirst; exact (Option.some.inj hfirst).symm
    obtain rfl : u0.2 = e := Option.some.inj ((h.data u0 (by simp)).symm.trans hg)
    obtain ⟨h1, h2⟩ := removeFirst_refines q u0 rest low h
    have key : ∀ up' low', MqInv q.removeFirst up' low' → up' ++ low' = rest ++ low → ∃ up' low' k, MqInv q.removeFirst up' low' ∧
        (∀ x ∈ ((u0 :: rest) ++ low).take k, (x.1, x.2.id) ∈ R) ∧
        (up' ++ low').map ekey = (((u0 :: rest) ++ low).drop k).map ekey ∧
        StKept R (((u0 :: rest) ++ low).drop k) (up' ++ low') ∧ CfKept (((u0 :: rest) ++ low).drop k) (up' ++ low') := by
      intro up' low' hi he
      refine ⟨up', low', 1, hi, fun x hx => ?_, by rw [he]; rfl, ?_, ?_⟩
      · cases List.mem_singleton.mp hx; exact hid ▸ hR
      · intro n x x' a b c; rw [he] at b; cases a.symm.trans b; exact .inl c
      · intro n x x' a b c; rw [he] at b; cases a.symm.trans b; exact c
    by_cases hr : rest = []
    · subst hr; exact key _ _ (h2 rfl) (by simp)
    · exact key _ _ (h1 hr) rfl

theorem kept_markConfirmed (q : MsgQueue) (o id : Nat) : KeptX [(o, id)] q (q.markConfirmed o id) := by
  rcases markConfirmed_cases q o id with h | ⟨e, hc, hg, rfl, h⟩ <;> rw [h]
  · exact .refl _ _
  · have hs : KeptX [(o, e.id)] q (q.setState o 0) :=
      kept_setState _ q o 0 (fun e' he' _ => .inr (by cases hg.symm.trans he'; simp)) (fun _ _ _ => rfl)
    split
    · rename_i hfo
      exact hs.trans (kept_removeFirst _ (q.setState o 0) o e.id { e with st := 0 } hc hfo.symm
        (by rw [get_setState, hg]; simp) rfl (by simp))
    · exact hs

theorem kept_getNextWaiting (R : List (Nat × Nat)) (q : MsgQueue) : KeptX R q q.getNextWaiting.1 := by
  intro up low h
  have hr := getNextWaiting_refines q up low h
  cases hfind : (up ++ low).find? (fun x => x.2.st == 1) with
  | none => rw [hfind] at hr; rw [show q.getNextWaiting = (q, none) from hr]; exact KeptX.refl R q up low h
  | some x =>
    rw [hfind] at hr
    rw [show q.getNextWaiting = _ from hr.1]
    have hst : x.2.st = 1 := by simpa using List.find?_some hfind
    have hg := h.data x (List.mem_of_find?_eq_some hfind)
    exact kept_setState R q x.1 2 (fun _ _ _ => .inl (by decide)) (fun e he h0 => by cases hg.symm.trans he; omega) up low h

theorem kept_setEntryWaiting (R : List (Nat × Nat)) (q : MsgQueue) (o id : Nat) : KeptX R q (q.setEntryWaiting o id) := by
  rcases setEntryWaiting_cases q o id with h | ⟨e, hg, hst, h⟩ <;> rw [h]
  · exact .refl _ _
  · exact kept_setState R q o 1 (fun _ _ _ => .inl (by decide)) (fun e' he' h0 => by cases hg.symm.trans he'; omega)

end Iec.Queues
