/-
History-level facts about the unbalanced secondary station (`Iec.Link101.SecU`): however often the
primary repeats a request, the application sees it once and the station repeats its previous response.
-/
import Iec.Model.Link101
namespace Iec.Link101

def txB (o : List Obs) : List (List Nat) :=
  o.filterMap (fun x => match x with | .tx f => some f.bytes | _ => none)

/-- what was handed to the application (`HandleReceivedData`) -/
def rxOf (o : List Obs) : List (List Nat) :=
  o.filterMap (fun x => match x with | .rx _ d => some d | _ => none)

@[simp] theorem txB_append (a b : List Obs) : txB (a ++ b) = txB a ++ txB b := by simp [txB]
@[simp] theorem rxOf_append (a b : List Obs) : rxOf (a ++ b) = rxOf a ++ rxOf b := by simp [rxOf]
@[simp] theorem txB_nil : txB [] = [] := rfl
@[simp] theorem rxOf_nil : rxOf [] = [] := rfl

/-- a request with the frame-count-valid bit set, as the received frame left it in the buffer -/
inductive Req where
  /-- FC 3, confirmed user data -/
  | data (buf : List Nat) (udStart : Nat) (udLen : Int)
  /-- FC 10 (class 1) / FC 11 (class 2) -/
  | poll (buf : List Nat) (cls1 : Bool)
  deriving Repr, DecidableEq

def Req.buf : Req → List Nat
  | .data b _ _ => b
  | .poll b _ => b

def Req.payload (r : Req) : List (List Nat) :=
  match r with
  | .data b us ul => if ul > 0 then [userDataOf b us ul] else []
  | .poll _ _ => []

def SecU.request (s : SecU) (r : Req) (fcb : Bool) : SecU × List Obs :=
  let s := { s with ll := { s.ll with buf := r.buf } }
  match r with
  | .data _ us ul => s.handleMessage 3 false fcb true us ul
  | .poll _ cls1 => s.handleMessage (if cls1 then 10 else 11) false fcb true 0 0

/-- the part of the station the application and the peer can tell apart -/
structure View where
  c1 : List (List Nat)
  c2 : List (List Nat)
  expectedFcb : Bool
  userData : List Nat
  p : Params
  address : Nat
  deriving DecidableEq

def SecU.view (s : SecU) : View :=
  { c1 := s.c1, c2 := s.c2, expectedFcb := s.expectedFcb, userData := s.ll.userData, p := s.ll.p, address := s.ll.address }

theorem setState_view (s : SecU) (n : Nat) : (s.setState n).1.view = s.view ∧ txB (s.setState n).2 = [] ∧ rxOf (s.setState n).2 = [] ∧
    (s.setState n).1.ll = s.ll := by
  unfold SecU.setState; split <;> exact ⟨rfl, rfl, rfl, rfl⟩

theorem sendVar_facts (l : LL) (fc a : Nat) (prm dir acd dfc : Bool) (d : List Nat) :
    (l.sendVar fc a prm dir acd dfc d).1.p = l.p ∧ (l.sendVar fc a prm dir acd dfc d).1.address = l.address ∧
    (l.sendVar fc a prm dir acd dfc d).1.userData = l.userData ∧
    txB (l.sendVar fc a prm dir acd dfc d).2 = (varFrame l.p.addrLen (ctrl fc prm dir acd dfc) a d).toList ∧
    rxOf (l.sendVar fc a prm dir acd dfc d).2 = [] := by
  unfold LL.sendVar
  simp only
  split <;> rename_i hv
  · refine ⟨rfl, rfl, rfl, ?_, rfl⟩; conv => rhs; rw [hv]
    rfl
  · refine ⟨rfl, rfl, rfl, ?_, rfl⟩; conv => rhs; rw [hv]
    rfl

theorem sendFixed_facts (l : LL) (fc a : Nat) (prm dir acd dfc : Bool) :
    (l.sendFixed fc a prm dir acd dfc).1.p = l.p ∧ (l.sendFixed fc a prm dir acd dfc).1.address = l.address ∧
    (l.sendFixed fc a prm dir acd dfc).1.userData = l.userData ∧
    txB (l.sendFixed fc a prm dir acd dfc).2 = [fixedFrame l.p.addrLen (ctrl fc prm dir acd dfc) a] ∧
    rxOf (l.sendFixed fc a prm dir acd dfc).2 = [] := ⟨rfl, rfl, rfl, rfl, rfl⟩

def ackBytes (v : View) (acd singleOk : Bool) : List (List Nat) :=
  if v.p.singleAck && singleOk then [singleChar] else [fixedFrame v.p.addrLen (ctrl 0 false false acd false) v.address]

theorem ack_facts (s : SecU) (acd singleOk : Bool) :
    (s.ack acd singleOk).1.view = s.view ∧ txB (s.ack acd singleOk).2 = ackBytes s.view acd singleOk ∧
    rxOf (s.ack acd singleOk).2 = [] := by
  unfold SecU.ack ackBytes
  by_cases h : (s.ll.p.singleAck && singleOk) = true
  · rw [if_pos h, if_pos (show (s.view.p.singleAck && singleOk) = true from h)]; exact ⟨rfl, rfl, rfl⟩
  · rw [if_neg h, if_neg (show ¬ (s.view.p.singleAck && singleOk) = true from h)]; exact ⟨rfl, rfl, rfl⟩

/-- the answer to a poll as a function of the view *after* the queues were served -/
def pollBytes (v : View) : List (List Nat) :=
  let acd := !v.c1.isEmpty
  if v.userData.length > 0 then (varFrame v.p.addrLen (ctrl 8 false false acd false) v.address v.userData).toList
  else if v.p.singleAck && !acd then [singleChar]
  else [fixedFrame v.p.addrLen (ctrl 9 false false acd false) v.address]

def View.accept (v : View) (r : Req) : View :=
  match r with
  | .data _ _ _ => { v with expectedFcb := !v.expectedFcb }
  | .poll _ true => { v with expectedFcb := !v.expectedFcb, c1 := v.c1.tail, userData := v.c1.head?.getD [] }
  | .poll _ false => { v with expectedFcb := !v.expectedFcb, c2 := v.c2.tail, userData := v.c2.head?.getD [] }

def View.resp (v : View) (r : Req) : List (List Nat) :=
  match r with
  | .data _ _ _ => ackBytes v (!v.c1.isEmpty) (!(!v.c1.isEmpty))
  | .poll _ _ => pollBytes v

/-- the application never queues an empty ASDU -/
def View.QueuesOk (v : View) : Prop := (∀ d ∈ v.c1, d ≠ []) ∧ (∀ d ∈ v.c2, d ≠ [])

theorem accept_queuesOk (v : View) (r : Req) (h : v.QueuesOk) : (v.accept r).QueuesOk := by
  obtain ⟨h1, h2⟩ := h
  cases r with
  | data => exact ⟨h1, h2⟩
  | poll b c =>
    cases c
    · exact ⟨h1, fun d hd => h2 d (List.mem_of_mem_tail hd)⟩
    · exact ⟨fun d hd => h1 d (List.mem_of_mem_tail hd), h2⟩

theorem accept_toggles (v : View) (r : Req) : (v.accept r).expectedFcb = !v.expectedFcb := by
  cases r with
  | data => rfl
  | poll b c => cases c <;> rfl

theorem accept_p (v : View) (r : Req) : (v.accept r).p = v.p ∧ (v.accept r).address = v.address := by
  cases r with
  | data => exact ⟨rfl, rfl⟩
  | poll b c => cases c <;> exact ⟨rfl, rfl⟩

theorem bool_ne_not (b : Bool) : b ≠ !b := by cases b <;> decide

theorem parity_step (b : Bool) (n : Nat) : (if n % 2 = 0 then !b else !!b) = if (n + 1) % 2 = 0 then b else !b := by
  have e : (n + 1) % 2 = (n % 2 + 1) % 2 := Nat.add_mod n 1 2
  rw [e]
  rcases Nat.mod_two_eq_zero_or_one n with h | h
  · rw [h]; rfl
  · rw [h, Bool.not_not]; rfl

theorem checkFCB_eq (e fcb : Bool) : checkFCB e fcb = if fcb = e then (true, !e) else (false, e) := by
  cases e <;> cases fcb <;> rfl

theorem txB_rx (p : Prop) [Decidable p] (bc : Bool) (d : List Nat) : txB (if p then [Obs.rx bc d] else []) = [] := by
  split <;> rfl

theorem rxOf_rx (p : Prop) [Decidable p] (bc : Bool) (d : List Nat) :
    rxOf (if p then [Obs.rx bc d] else []) = if p then [d] else [] := by
  split <;> rfl

theorem userData_step (s : SecU) (bc fcb : Bool) (us : Nat) (ul : Int) :
    (s.userData bc fcb true us ul).1.view = (if fcb = s.expectedFcb then { s.view with expectedFcb := !s.expectedFcb } else s.view) ∧
    txB (s.userData bc fcb true us ul).2 = ackBytes s.view (!s.c1.isEmpty) (!(!s.c1.isEmpty)) ∧
    rxOf (s.userData bc fcb true us ul).2 = (if fcb = s.expectedFcb ∧ ul > 0 then [userDataOf s.ll.buf us ul] else []) := by
  unfold SecU.userData
  simp only [if_true, checkFCB_eq]
  by_cases h : fcb = s.expectedFcb
  · simp only [h, if_true, true_and, Bool.true_and]
    obtain ⟨a, b, c⟩ := ack_facts { s with expectedFcb := !s.expectedFcb } (!s.c1.isEmpty) (!(!s.c1.isEmpty))
    refine ⟨a, ?_, ?_⟩
    · rw [txB_append, b, txB_rx]
      rfl
    · rw [rxOf_append, c, rxOf_rx, List.append_nil]
      simp only [decide_eq_true_eq]
  · simp only [h, if_false, false_and, Bool.false_and]
    exact ack_facts { s with expectedFcb := s.expectedFcb } (!s.c1.isEmpty) (!(!s.c1.isEmpty))

theorem answer_spec (t : SecU) (asdu : Option (List Nat))
    (h : asdu = if t.ll.userData.length > 0 then some t.ll.userData else none) :
    (t.answer asdu).1.view = t.view ∧ txB (t.answer asdu).2 = pollBytes t.view ∧ rxOf (t.answer asdu).2 = [] := by
  subst h
  unfold SecU.answer pollBytes
  by_cases hl : t.ll.userData.length > 0
  · have hl' : t.view.userData.length > 0 := hl
    simp only [if_pos hl, if_pos hl']
    obtain ⟨f1, f2, f3, f4, f5⟩ := sendVar_facts t.ll 8 t.ll.address false false (!t.c1.isEmpty) false t.ll.userData
    exact ⟨by simp [SecU.view, f1, f2, f3], f4, f5⟩
  · have hl' : ¬ t.view.userData.length > 0 := hl
    simp only [if_neg hl, if_neg hl']
    by_cases hs : (t.ll.p.singleAck && !(!t.c1.isEmpty)) = true
    · rw [if_pos hs, if_pos (show (t.view.p.singleAck && !(!t.view.c1.isEmpty)) = true from hs)]
      exact ⟨rfl, rfl, rfl⟩
    · rw [if_neg hs, if_neg (show ¬ (t.view.p.singleAck && !(!t.view.c1.isEmpty)) = true from hs)]
      exact ⟨rfl, rfl, rfl⟩

theorem length_pos_of_ne_nil {d : List Nat} (h : d ≠ []) : d.length > 0 := List.length_pos_iff.mpr h

/-- a poll whose frame count bit is not the expected one: nothing is taken from the queues, the stored response goes out -/
theorem SecU.poll_repeat (s : SecU) (cls1 fcb : Bool) (h : fcb ≠ s.expectedFcb) :
    s.poll cls1 fcb true =
      SecU.answer { s with expectedFcb := s.expectedFcb } (if s.ll.userData.length > 0 then some s.ll.userData else none) := by
  delta SecU.poll
  rw [if_pos rfl, checkFCB_eq, if_neg h]
  rfl

theorem poll_step (s : SecU) (cls1 fcb : Bool) (hq : s.view.QueuesOk) :
    (s.poll cls1 fcb true).1.view = (if fcb = s.expectedFcb then s.view.accept (.poll [] cls1) else s.view) ∧
    txB (s.poll cls1 fcb true).2 = pollBytes (s.poll cls1 fcb true).1.view ∧
    rxOf (s.poll cls1 fcb true).2 = [] := by
  -- in every branch `poll` is `answer` on a state whose stored response is what it is about to send
  have key : ∀ (t : SecU) (asdu : Option (List Nat)) (v : View),
      (asdu = if t.ll.userData.length > 0 then some t.ll.userData else none) → t.view = v →
      (t.answer asdu).1.view = v ∧ txB (t.answer asdu).2 = pollBytes (t.answer asdu).1.view ∧ rxOf (t.answer asdu).2 = [] := by
    intro t asdu v h hv
    obtain ⟨a, b, c⟩ := answer_spec t asdu h
    exact ⟨a.trans hv, by rw [b, a], c⟩
  obtain ⟨q1, q2⟩ := hq
  by_cases h : fcb = s.expectedFcb
  · unfold SecU.poll
    simp only [if_true, checkFCB_eq, h, Bool.not_true, Bool.false_eq_true, if_false]
    cases cls1
    · cases hc : s.c2 with
      | nil => exact key _ _ _ rfl (by simp [SecU.view, View.accept, hc])
      | cons d rest =>
        exact key _ _ _ (by simp [length_pos_of_ne_nil (q2 d (by simp [SecU.view, hc]))]) (by simp [SecU.view, View.accept, hc])
    · cases hc : s.c1 with
      | nil => exact key _ _ _ rfl (by simp [SecU.view, View.accept, hc])
      | cons d rest =>
        exact key _ _ _ (by simp [length_pos_of_ne_nil (q1 d (by simp [SecU.view, hc]))]) (by simp [SecU.view, View.accept, hc])
  · rw [SecU.poll_repeat s cls1 fcb h, if_neg h]
    exact key _ _ _ rfl rfl

theorem request_spec (s : SecU) (r : Req) (fcb : Bool) (hq : s.view.QueuesOk) :
    (s.request r fcb).1.view = (if fcb = s.expectedFcb then s.view.accept r else s.view) ∧
    txB (s.request r fcb).2 = ((s.request r fcb).1.view).resp r ∧
    rxOf (s.request r fcb).2 = (if fcb = s.expectedFcb then r.payload else []) := by
  obtain ⟨t, ht⟩ : ∃ t, t = ({ s with ll := { s.ll with buf := r.buf } } : SecU).setState 3 := ⟨_, rfl⟩
  obtain ⟨hv, h2, h3, hl⟩ := setState_view ({ s with ll := { s.ll with buf := r.buf } } : SecU) 3
  rw [← ht] at hv h2 h3 hl
  have hv : t.1.view = s.view := hv
  have he : t.1.expectedFcb = s.expectedFcb := congrArg View.expectedFcb hv
  cases r with
  | data b us ul =>
    have hr : s.request (.data b us ul) fcb = ((t.1.userData false fcb true us ul).1, t.2 ++ (t.1.userData false fcb true us ul).2) := by
      unfold SecU.request SecU.handleMessage
      simp [Req.buf]
      subst ht
      exact ⟨rfl, rfl⟩
    obtain ⟨a, bb, c⟩ := userData_step t.1 false fcb us ul
    rw [hr]
    simp only [txB_append, rxOf_append, h2, h3, List.nil_append]
    rw [a, bb, c, he, hv, show t.1.c1 = s.view.c1 from congrArg View.c1 hv, show t.1.ll.buf = b by rw [hl]; rfl]
    refine ⟨by split <;> rfl, by split <;> rfl, ?_⟩
    by_cases h : fcb = s.expectedFcb <;> by_cases hl : ul > 0 <;> simp [h, hl, Req.payload]
  | poll b c =>
    have hr : s.request (.poll b c) fcb = ((t.1.poll c fcb true).1, t.2 ++ (t.1.poll c fcb true).2) := by
      unfold SecU.request SecU.handleMessage
      subst ht
      cases c <;> simp [Req.buf] <;> exact ⟨rfl, rfl⟩
    obtain ⟨a, bb, cc⟩ := poll_step t.1 c fcb (by rw [hv]; exact hq)
    rw [hr]
    simp only [txB_append, rxOf_append, h2, h3, List.nil_append]
    rw [bb, cc, a, he, hv]
    refine ⟨?_, rfl, by split <;> rfl⟩
    split
    · cases c <;> rfl
    · rfl

def SecU.repeatN (s : SecU) (r : Req) (fcb : Bool) : Nat → SecU × List Obs
  | 0 => (s, [])
  | n + 1 =>
    let r1 := s.request r fcb
    let r2 := SecU.repeatN r1.1 r fcb n
    (r2.1, r1.2 ++ r2.2)

/-- a primary in step with the station: each request goes out with the bit the station expects and `n` more times
unchanged (responses lost or late) -/
def SecU.runStream (s : SecU) : List (Req × Nat) → SecU × List Obs
  | [] => (s, [])
  | (r, n) :: rest =>
    let fcb := s.expectedFcb
    let r1 := s.request r fcb
    let r2 := r1.1.repeatN r fcb n
    let r3 := SecU.runStream r2.1 rest
    (r3.1, r1.2 ++ r2.2 ++ r3.2)

def View.stream (v : View) : List (Req × Nat) → View × List (List Nat) × List (List Nat)
  | [] => (v, [], [])
  | (r, n) :: rest =>
    let v1 := v.accept r
    let r3 := View.stream v1 rest
    (r3.1, (List.replicate (n + 1) (v1.resp r)).flatten ++ r3.2.1, r.payload ++ r3.2.2)

theorem repeatN_spec (r : Req) (fcb : Bool) : ∀ (n : Nat) (s : SecU), s.view.QueuesOk → fcb ≠ s.expectedFcb →
    (s.repeatN r fcb n).1.view = s.view ∧ txB (s.repeatN r fcb n).2 = (List.replicate n (s.view.resp r)).flatten ∧
    rxOf (s.repeatN r fcb n).2 = [] := by
  intro n
  induction n with
  | zero => intro s _ _; exact ⟨rfl, rfl, rfl⟩
  | succ n ih =>
    intro s hq hne
    obtain ⟨a, b, c⟩ := request_spec s r fcb hq
    rw [if_neg hne] at a c
    have hne' : fcb ≠ (s.request r fcb).1.expectedFcb := by
      have : (s.request r fcb).1.expectedFcb = (s.request r fcb).1.view.expectedFcb := rfl
      rw [this, a]; exact hne
    obtain ⟨a2, b2, c2⟩ := ih (s.request r fcb).1 (by rw [a]; exact hq) hne'
    unfold SecU.repeatN
    simp only [txB_append, rxOf_append]
    rw [a2, b2, c2, a, b, c, a]
    exact ⟨rfl, by simp [List.replicate_succ], rfl⟩

theorem runStream_refines : ∀ (rs : List (Req × Nat)) (s : SecU), s.view.QueuesOk →
    (s.runStream rs).1.view = (s.view.stream rs).1 ∧ txB (s.runStream rs).2 = (s.view.stream rs).2.1 ∧
    rxOf (s.runStream rs).2 = (s.view.stream rs).2.2 := by
  intro rs
  induction rs with
  | nil => intro s _; exact ⟨rfl, rfl, rfl⟩
  | cons x rest ih =>
    obtain ⟨r, n⟩ := x
    intro s hq
    obtain ⟨a, b, c⟩ := request_spec s r s.expectedFcb hq
    simp only [if_true] at a c
    have hq1 : (s.request r s.expectedFcb).1.view.QueuesOk := by rw [a]; exact accept_queuesOk _ _ hq
    have hne : s.expectedFcb ≠ (s.request r s.expectedFcb).1.expectedFcb := by
      have : (s.request r s.expectedFcb).1.expectedFcb = (s.request r s.expectedFcb).1.view.expectedFcb := rfl
      rw [this, a, accept_toggles]
      exact bool_ne_not _
    obtain ⟨a2, b2, c2⟩ := repeatN_spec r s.expectedFcb n (s.request r s.expectedFcb).1 hq1 hne
    obtain ⟨a3, b3, c3⟩ := ih ((s.request r s.expectedFcb).1.repeatN r s.expectedFcb n).1 (by rw [a2]; exact hq1)
    unfold SecU.runStream View.stream
    simp only [txB_append, rxOf_append]
    rw [a3, b3, c3, a2, b2, c2, b, c, a]
    refine ⟨rfl, ?_, by simp⟩
    simp [List.replicate_succ]

theorem stream_rx (rs : List (Req × Nat)) : ∀ v : View, (v.stream rs).2.2 = (rs.map fun x => x.1.payload).flatten := by
  induction rs with
  | nil => intro v; rfl
  | cons x rest ih => intro v; obtain ⟨r, n⟩ := x; simp [View.stream, ih]

theorem stream_view_indep (rs : List (Req × Nat)) : ∀ v : View, (v.stream rs).1 = (v.stream (rs.map fun x => (x.1, 0))).1 := by
  induction rs with
  | nil => intro v; rfl
  | cons x rest ih => intro v; obtain ⟨r, n⟩ := x; simp [View.stream, ih]

end Iec.Link101
