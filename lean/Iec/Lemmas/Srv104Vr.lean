/-
V(R) over the messages received on a connection (C03).  Of all atoms only `count` touches V(R) (`vr_steps`);
`handleMessage` is `handleI` on a well-framed I-format APDU and makes no `count` otherwise (`handleMessage_cases`), and
`handleI` counts exactly when both sequence checks pass (`handleI_cases`).  Hence, over every list of messages handled
on a connection, V(R) = V(R) at the start + number of accepted I-format APDUs.
-/
import Iec.Lemmas.Srv104Steps
namespace Iec.Srv104
open Iec.KWindow Iec.Queues

def VrKeep (s s' : Slave) : Prop := s'.conns.length = s.conns.length ∧ ∀ j, (s'.conn j).vr = (s.conn j).vr

theorem VrKeep.refl (s : Slave) : VrKeep s s := ⟨rfl, fun _ => rfl⟩

theorem vr_after_set (s : Slave) (i : Nat) (c c' : Conn) (h1 : c'.vr = c.vr) (h2 : c'.vr = (s.conn i).vr) :
    c'.vr = ((s.setConn i c).conn i).vr :=
  conn_setConn_either (P := fun x => c'.vr = x.vr) s i c h1 h2

theorem vr_steps {K : Caps} {i : Nat} (hc : ¬ K.count) {s t : Slave} (st : Steps K i s t) : VrKeep s t :=
  have h := st.perConn <| .of_field (·.vr) (fun u => by cases u <;> rfl) (fun _ _ _ _ => ⟨rfl, rfl⟩) (fun _ _ _ => rfl)
    (fun h => absurd h hc)
  ⟨h.len, h.conn⟩

def VrInc (s s' : Slave) (i : Nat) : Prop :=
  s'.conns.length = s.conns.length ∧ (s'.conn i).vr = ((s.conn i).vr + 1) % 32768 ∧ ∀ j, j ≠ i → (s'.conn j).vr = (s.conn j).vr

theorem handleI_vr (s : Slave) (i : Nat) (buf : List Nat) :
    (SeqOk s i buf → VrInc s (handleI s i buf).1 i) ∧ (¬ SeqOk s i buf → VrKeep s (handleI s i buf).1) := by
  rcases handleI_cases s i buf with ⟨hn, _, _, st⟩ | ⟨hy, s2, st1, _, hr⟩
  · exact ⟨fun h => absurd h hn, fun _ => vr_steps id st⟩
  · refine ⟨fun _ => ?_, fun h => absurd hy h⟩
    obtain ⟨l1, v1⟩ := vr_steps id st1
    obtain ⟨l2, v2⟩ : VrKeep (s2.counted i) (handleI s i buf).1 := by
      rcases hr with ⟨_, e⟩ | ⟨_, _, st2⟩
      · rw [e]; exact .refl _
      · exact (vr_steps id st2 :)
    have hi : i < s2.conns.length := by rw [l1]; exact lt_of_started s i hy.2.1
    refine ⟨by rw [l2, Slave.counted, setConn_len, l1], ?_, fun j hj => ?_⟩
    · rw [v2, Slave.counted, conn_setConn _ _ _ hi, ← v1]; rfl
    · rw [v2, Slave.counted, conn_setConn_ne _ _ _ _ hj, v1]

def Accepted (s : Slave) (i : Nat) (buf : List Nat) : Prop :=
  ¬ buf.length < 6 ∧ buf.getD 0 0 = 0x68 ∧ buf.getD 1 0 = buf.length - 2 ∧ buf.getD 2 0 &&& 1 = 0 ∧ SeqOk s i buf

instance (s : Slave) (i : Nat) (buf : List Nat) : Decidable (Accepted s i buf) := by unfold Accepted; infer_instance

theorem accepted_iff {s : Slave} {i : Nat} {buf : List Nat} : Accepted s i buf ↔ IFramed buf ∧ SeqOk s i buf := by
  unfold Accepted IFramed; simp only [and_assoc]

theorem handleMessage_vr (s : Slave) (i : Nat) (buf : List Nat) :
    (Accepted s i buf → VrInc s (handleMessage s i buf).1 i) ∧ (¬ Accepted s i buf → VrKeep s (handleMessage s i buf).1) := by
  rcases handleMessage_cases s i buf with ⟨hf, e⟩ | ⟨hf, st⟩
  · rw [e]
    exact ⟨fun ha => (handleI_vr s i buf).1 (accepted_iff.1 ha).2,
      fun hn => (handleI_vr s i buf).2 fun hs => hn (accepted_iff.2 ⟨hf, hs⟩)⟩
  · exact ⟨fun ha => absurd (accepted_iff.1 ha).1 hf, fun _ => vr_steps id st⟩

def recvAll (s : Slave) (i : Nat) (ms : List (List Nat)) : Slave := ms.foldl (fun s m => (handleMessage s i m).1) s

def acceptedCount (s : Slave) (i : Nat) : List (List Nat) → Nat
  | [] => 0
  | m :: ms => (if Accepted s i m then 1 else 0) + acceptedCount (handleMessage s i m).1 i ms

theorem vr_counts_accepted : ∀ (ms : List (List Nat)) (s : Slave) (i : Nat), i < s.conns.length →
    (s.conn i).vr < 32768 →
    ((recvAll s i ms).conn i).vr = ((s.conn i).vr + acceptedCount s i ms) % 32768 := by
  intro ms
  induction ms with
  | nil => intro s i _ hv; simp [recvAll, acceptedCount, Nat.mod_eq_of_lt hv]
  | cons m ms ih =>
    intro s i hi hv
    obtain ⟨a, b⟩ := handleMessage_vr s i m
    unfold recvAll acceptedCount
    simp only [List.foldl_cons]
    by_cases hacc : Accepted s i m
    · obtain ⟨hl, hvr, _⟩ := a hacc
      have := ih (handleMessage s i m).1 i (by rw [hl]; exact hi) (by rw [hvr]; exact Nat.mod_lt _ (by decide))
      unfold recvAll at this
      rw [this, hvr, if_pos hacc]
      omega
    · obtain ⟨hl, hvr⟩ := b hacc
      have := ih (handleMessage s i m).1 i (by rw [hl]; exact hi) (by rw [hvr i]; exact hv)
      unfold recvAll at this
      rw [this, hvr i, if_neg hacc]
      simp

end Iec.Srv104
