/-
Balanced station, secondary part: however often the peer repeats a confirmed user-data frame, the application sees it
once (history-level counterpart of `Iec.Props.C15.bal_repeat`).
-/
import Iec.Lemmas.Link101Hist
namespace Iec.Link101

/-- a confirmed user-data frame (FC 3, FCV = 1) as the received frame left it in the buffer -/
structure BReq where
  buf : List Nat
  udStart : Nat
  udLen : Int
  deriving Repr, DecidableEq

def BReq.payload (r : BReq) : List (List Nat) := if r.udLen > 0 then [userDataOf r.buf r.udStart r.udLen] else []

/-- `acc`: whether the application accepts the data at this reception; it may answer differently at a repetition -/
def Bal.dataReq (s : Bal) (r : BReq) (fcb acc : Bool) : Bal × List Obs :=
  ({ s with ll := { s.ll with buf := r.buf }, accept := acc } : Bal).secHandle 3 fcb true r.udStart r.udLen

theorem bal_ack_rx (s : Bal) : rxOf (s.ack).2 = [] ∧ (s.ack).1.expectedFcb = s.expectedFcb := by
  unfold Bal.ack
  split <;> exact ⟨rfl, rfl⟩

/-- a frame whose frame count bit is not the expected one: the expectation stays, the stored ACK is all that is written -/
theorem Bal.secHandle_repeat (s : Bal) (fc : Nat) (fcb : Bool) (us : Nat) (ul : Int) (h : fcb ≠ s.expectedFcb) :
    s.secHandle fc fcb true us ul = if s.lastAck then Bal.ack { s with expectedFcb := s.expectedFcb } else (s, []) := by
  delta Bal.secHandle
  rw [if_pos rfl, checkFCB_eq, if_neg h]
  rfl

theorem bal_dataReq_spec (s : Bal) (r : BReq) (fcb acc : Bool) :
    rxOf (s.dataReq r fcb acc).2 = (if fcb = s.expectedFcb then r.payload else []) ∧
    (s.dataReq r fcb acc).1.expectedFcb = (if fcb = s.expectedFcb then !s.expectedFcb else s.expectedFcb) := by
  by_cases h : fcb = s.expectedFcb
  · unfold Bal.dataReq Bal.secHandle
    simp only [if_true, checkFCB_eq]
    simp only [h, if_true, Bool.not_true, Bool.false_eq_true, if_false, show (3 : Nat) ≠ 0 by decide, show (3 : Nat) ≠ 2 by decide]
    by_cases hl : r.udLen > 0
    · simp only [hl, if_true]
      cases acc
      · simp [rxOf, BReq.payload, hl]
      · simp only [if_true]
        exact ⟨by rw [rxOf_append, (bal_ack_rx _).1]; simp [rxOf, BReq.payload, hl], (bal_ack_rx _).2⟩
    · simp [hl, BReq.payload, rxOf]
  · rw [Bal.dataReq, Bal.secHandle_repeat ({ s with ll := { s.ll with buf := r.buf }, accept := acc } : Bal) 3 fcb _ _ h,
      if_neg h, if_neg h]
    split
    · exact bal_ack_rx _
    · exact ⟨rfl, rfl⟩

def Bal.repeatData (s : Bal) (r : BReq) (fcb : Bool) : List Bool → Bal × List Obs
  | [] => (s, [])
  | acc :: accs =>
    let r1 := s.dataReq r fcb acc
    let r2 := Bal.repeatData r1.1 r fcb accs
    (r2.1, r1.2 ++ r2.2)

/-- a peer in step with the station: each frame goes out with the bit the station expects and is repeated unchanged
(ACK lost, not given, or late) -/
def Bal.runData (s : Bal) : List (BReq × Bool × List Bool) → Bal × List Obs
  | [] => (s, [])
  | (r, acc, accs) :: rest =>
    let fcb := s.expectedFcb
    let r1 := s.dataReq r fcb acc
    let r2 := r1.1.repeatData r fcb accs
    let r3 := Bal.runData r2.1 rest
    (r3.1, r1.2 ++ r2.2 ++ r3.2)

theorem bal_repeat_spec (r : BReq) (fcb : Bool) : ∀ (accs : List Bool) (s : Bal), fcb ≠ s.expectedFcb →
    rxOf (s.repeatData r fcb accs).2 = [] ∧ (s.repeatData r fcb accs).1.expectedFcb = s.expectedFcb := by
  intro accs
  induction accs with
  | nil => intro s _; exact ⟨rfl, rfl⟩
  | cons a accs ih =>
    intro s hne
    obtain ⟨h1, h2⟩ := bal_dataReq_spec s r fcb a
    rw [if_neg hne] at h1 h2
    obtain ⟨i1, i2⟩ := ih (s.dataReq r fcb a).1 (by rw [h2]; exact hne)
    unfold Bal.repeatData
    simp only [rxOf_append]
    rw [h1, i1, i2, h2]
    exact ⟨rfl, rfl⟩

theorem bal_runData_spec : ∀ (rs : List (BReq × Bool × List Bool)) (s : Bal),
    rxOf (s.runData rs).2 = (rs.map fun x => x.1.payload).flatten ∧
    (s.runData rs).1.expectedFcb = (if rs.length % 2 = 0 then s.expectedFcb else !s.expectedFcb) := by
  intro rs
  induction rs with
  | nil => intro s; exact ⟨rfl, rfl⟩
  | cons x rest ih =>
    obtain ⟨r, acc, accs⟩ := x
    intro s
    obtain ⟨h1, h2⟩ := bal_dataReq_spec s r s.expectedFcb acc
    simp only [if_true] at h1 h2
    have hne : s.expectedFcb ≠ (s.dataReq r s.expectedFcb acc).1.expectedFcb := by
      rw [h2]; exact bool_ne_not _
    obtain ⟨j1, j2⟩ := bal_repeat_spec r s.expectedFcb accs (s.dataReq r s.expectedFcb acc).1 hne
    obtain ⟨k1, k2⟩ := ih ((s.dataReq r s.expectedFcb acc).1.repeatData r s.expectedFcb accs).1
    unfold Bal.runData
    simp only [rxOf_append]
    rw [h1, j1, k1, k2, j2, h2]
    exact ⟨by simp, parity_step _ _⟩

end Iec.Link101
