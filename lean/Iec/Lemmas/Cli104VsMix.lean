/-
N(S) on the wire of the client when sending and receiving interleave: whatever messages arrive between the send calls
(acknowledgements releasing the window, I-format APDUs, U-format requests answered on the same socket), the I-format
APDUs the client has written carry N(S) = 0, 1, 2, ... modulo 32768 in the order they were written.
-/
import Iec.Lemmas.Cli104Vs
namespace Iec.Cli104
open Iec.KWindow Iec.Srv104

def NsKeep (c c' : Cli) : Prop :=
  c'.vs = c.vs ∧ (Writable c → Writable c') ∧ nsLog c'.log = nsLog c.log

theorem Moves.nsKeep {c c' : Cli} (h : Reception c c') : NsKeep c c' := by
  obtain ⟨l, g, a⟩ := h.log
  exact ⟨h.vs, by unfold Writable; rw [h.phase, h.sock]; exact id, by rw [g, nsLog_append, nsLog_minor a, List.append_nil]⟩

theorem nsKeep_emit_asdu (c : Cli) (b : List Nat) : NsKeep c (emit c (.asdu b)) :=
  Moves.nsKeep (moves_emit c _ rfl)

/-- what the application and the connection thread do on an open connection, in any order -/
inductive MOp where
  | send (a : List Nat)
  | recv (m : List Nat)
  | timers
  | ackW
  | startdt
  | stopdt

def MOp.apply (c : Cli) : MOp → Cli
  | .send a => (sendAsdu c a).1
  | .recv m => (checkMessage c m).1
  | .timers => (handleTimeouts c).1
  | .ackW => ackIfW c
  | .startdt => sendStartDT c
  | .stopdt => sendStopDT c

def mixRun (c : Cli) (ops : List MOp) : Cli := ops.foldl MOp.apply c

def mixSent (c : Cli) : List MOp → Nat
  | [] => 0
  | op :: r => (match op with | .send a => (if (sendAsdu c a).2 then 1 else 0) | _ => 0) + mixSent (op.apply c) r

/-- Only an accepted `sendAsdu` touches V(S) or writes an I-format APDU: every other step is a `Reception`.  Each case
comes with the unfolding of `mixSent` it needs, since the count is defined along the same case split. -/
theorem MOp.apply_cases (c : Cli) (op : MOp) (r : List MOp) :
    (Reception c (op.apply c) ∧ mixSent c (op :: r) = mixSent (op.apply c) r) ∨
    (∃ a, op.apply c = sent c a ∧ mixSent c (op :: r) = 1 + mixSent (sent c a) r) := by
  cases op with
  | send a =>
    show (Reception c (sendAsdu c a).1 ∧ (if (sendAsdu c a).2 then 1 else 0) + mixSent (sendAsdu c a).1 r = mixSent (sendAsdu c a).1 r) ∨
      ∃ a', (sendAsdu c a).1 = sent c a' ∧ (if (sendAsdu c a).2 then 1 else 0) + mixSent (sendAsdu c a).1 r = 1 + mixSent (sent c a') r
    rcases sendAsdu_cases c a with e | ⟨_, e⟩ <;> rw [e]
    · exact Or.inl ⟨.refl c, Nat.zero_add _⟩
    · exact Or.inr ⟨a, rfl, rfl⟩
  | recv m => exact Or.inl ⟨reception_checkMessage c m, Nat.zero_add _⟩
  | timers => exact Or.inl ⟨(calm_handleTimeouts c).reception, Nat.zero_add _⟩
  | ackW => exact Or.inl ⟨(calm_ackIfW c).reception, Nat.zero_add _⟩
  | startdt => exact Or.inl ⟨(calm_sendStartDT c).reception, Nat.zero_add _⟩
  | stopdt => exact Or.inl ⟨(calm_sendStopDT c).reception, Nat.zero_add _⟩

theorem range_shift (v n : Nat) :
    v % 32768 :: (List.range n).map (fun j => ((v + 1) % 32768 + j) % 32768) =
      (List.range (n + 1)).map (fun j => (v + j) % 32768) := by
  rw [List.range_succ_eq_map]
  simp only [List.map_cons, List.map_map, Nat.add_zero]
  congr 1
  apply List.map_congr_left
  intro j _
  simp only [Function.comp]
  omega

theorem ns_on_the_wire_mix : ∀ (ops : List MOp) (c : Cli), c.vs < 32768 → Writable c →
    nsLog (mixRun c ops).log = nsLog c.log ++ (List.range (mixSent c ops)).map (fun j => (c.vs + j) % 32768)
  | [], c, _, _ => (List.append_nil _).symm
  | op :: ops, c, hv, hw => by
    show nsLog (mixRun (op.apply c) ops).log = _
    rcases MOp.apply_cases c op ops with ⟨hf, e⟩ | ⟨a, ea, e⟩ <;> rw [e]
    · obtain ⟨h1, h2, h3⟩ := hf.nsKeep
      rw [ns_on_the_wire_mix ops _ (by rw [h1]; exact hv) (h2 hw), h3, h1]
    · obtain ⟨hl, hw'⟩ := sent_wire c a hw
      obtain ⟨x, y⟩ := iFrame_ns c a hv
      have hn : nsLog [Obs.tx (iFrame c a)] = [c.vs % 32768] := by
        simp only [nsLog, List.filterMap_cons, List.filterMap_nil, (isIFrame_iff _).mpr y, x, Nat.mod_eq_of_lt hv, if_true]
      rw [ea, ns_on_the_wire_mix ops _ (Nat.mod_lt _ (by decide)) hw', hl, nsLog_append, hn, List.append_assoc,
        Nat.add_comm 1, ← range_shift]
      rfl

end Iec.Cli104
