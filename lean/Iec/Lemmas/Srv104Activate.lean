/-
`CS104_Slave_activate`: the other used connections of the group are deactivated first, then the connection is started.
-/
import Iec.Lemmas.Srv104
namespace Iec.Srv104
open Iec.KWindow

theorem deactivate_cases (s : Slave) (j : Nat) :
    (¬ ((s.conn j).isUsed = true ∧ (s.conn j).state = 1) ∧ deactivate s j = s.setConn j { s.conn j with state := 2 }) ∨
    ((s.conn j).isUsed = true ∧ (s.conn j).state = 1 ∧
      deactivate s j = (emit s (.ev j "DEACTIVATED")).setConn j { s.conn j with state := 2 }) := by
  unfold deactivate
  simp only
  split
  · rename_i h
    simp only [Bool.and_eq_true, decide_eq_true_eq] at h
    exact Or.inr ⟨h.1, h.2, rfl⟩
  · rename_i h
    simp only [Bool.and_eq_true, decide_eq_true_eq] at h
    exact Or.inl ⟨h, rfl⟩

theorem activateConn_cases (s : Slave) (i : Nat) :
    ((s.conn i).state = 1 ∧ activateConn s i = s.setConn i { s.conn i with state := 1 }) ∨
    ((s.conn i).state ≠ 1 ∧ activateConn s i = (emit s (.ev i "ACTIVATED")).setConn i { s.conn i with state := 1 }) := by
  unfold activateConn
  simp only
  split
  · rename_i h
    exact Or.inr ⟨by simpa using h, rfl⟩
  · rename_i h
    exact Or.inl ⟨by simpa using h, rfl⟩

theorem deactivate_facts (s : Slave) (j : Nat) :
    (deactivate s j).conns.length = s.conns.length ∧ (deactivate s j).p = s.p ∧ (deactivate s j).now = s.now ∧
    (deactivate s j).groups = s.groups ∧
    ∀ i, i ≠ j → (deactivate s j).conn i = s.conn i := by
  rcases deactivate_cases s j with ⟨_, e⟩ | ⟨_, _, e⟩ <;> rw [e] <;>
    exact ⟨setConn_len _ _ _, rfl, rfl, rfl, fun i h => conn_setConn_ne _ _ _ _ h⟩

theorem deactivate_i (s : Slave) (i : Nat) (hi : i < s.conns.length) :
    (deactivate s i).conn i = { (s.conn i) with state := 2 } ∧
    (deactivate s i).log = s.log ++ (if (s.conn i).isUsed && (s.conn i).state = 1 then [.ev i "DEACTIVATED"] else []) := by
  rcases deactivate_cases s i with ⟨h, e⟩ | ⟨h1, h2, e⟩ <;> rw [e]
  · exact ⟨conn_setConn _ _ _ hi, by rw [if_neg (by simpa using h)]; exact (List.append_nil _).symm⟩
  · exact ⟨conn_setConn _ _ _ hi, by rw [if_pos (by simp [h1, h2])]; rfl⟩

theorem activateConn_facts (s : Slave) (i : Nat) (hi : i < s.conns.length) :
    (activateConn s i).conn i = { (s.conn i) with state := 1 } ∧ (activateConn s i).conns.length = s.conns.length := by
  rcases activateConn_cases s i with ⟨_, e⟩ | ⟨_, e⟩ <;> rw [e] <;> exact ⟨conn_setConn _ _ _ hi, setConn_len _ _ _⟩

theorem foldl_deactivate (js : List Nat) : ∀ (s : Slave) (x : Nat), x < s.conns.length →
    (js.foldl deactivate s).conns.length = s.conns.length ∧
    (js.foldl deactivate s).conn x = if x ∈ js then { s.conn x with state := 2 } else s.conn x := by
  induction js with
  | nil => intro s x _; exact ⟨rfl, rfl⟩
  | cons j js ih =>
    intro s x hx
    have hd := deactivate_facts s j
    obtain ⟨hl, hc⟩ := ih (deactivate s j) x (by rw [hd.1]; exact hx)
    refine ⟨hl.trans hd.1, ?_⟩
    rw [List.foldl_cons, hc]
    by_cases hxj : x = j
    · subst hxj
      rw [(deactivate_i s x hx).1, if_pos List.mem_cons_self]
      split <;> rfl
    · rw [hd.2.2.2.2 x hxj]
      simp only [List.mem_cons, hxj, false_or]

theorem activate_self (s : Slave) (i : Nat) (hi : i < s.conns.length) :
    (activate s i).conn i = { s.conn i with state := 1 } ∧ (activate s i).conns.length = s.conns.length := by
  unfold activate
  extract_lets js
  obtain ⟨hl, hc⟩ := foldl_deactivate js s i hi
  rw [if_neg (by simp [js])] at hc
  have ha := activateConn_facts (js.foldl deactivate s) i (by rw [hl]; exact hi)
  exact ⟨by rw [ha.1, hc], ha.2.trans hl⟩

/-- C08 for one call of `CS104_Slave_activate` -/
theorem activate_exclusive (s : Slave) (i : Nat) (hi : i < s.conns.length) (j : Nat) (hj : j < s.conns.length)
    (hne : j ≠ i) (hu : (s.conn j).isUsed = true)
    (hg : s.p.mode = 0 ∨ (s.p.mode = 2 ∧ (s.conn j).group = (s.conn i).group)) :
    ((activate s i).conn i).state = 1 ∧ ((activate s i).conn j).state = 2 := by
  refine ⟨by rw [(activate_self s i hi).1], ?_⟩
  unfold activate
  extract_lets js
  have hmem : j ∈ js := by
    simp only [js, List.mem_filter, List.mem_range, Bool.and_eq_true, bne_iff_ne, Bool.or_eq_true, decide_eq_true_eq,
      beq_iff_eq]
    exact ⟨hj, ⟨hne, hu⟩, hg⟩
  have hc := (foldl_deactivate js s j hj).2
  rw [if_pos hmem] at hc
  rcases activateConn_cases (js.foldl deactivate s) i with ⟨_, e⟩ | ⟨_, e⟩ <;> rw [e] <;>
    exact congrArg Conn.state ((conn_setConn_ne _ _ _ _ hne).trans hc)

end Iec.Srv104
