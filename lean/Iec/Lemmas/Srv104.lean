import Iec.Lemmas.Reasm
import Iec.Lemmas.KWindow
/-
Base facts about single functions of the server model: reading and writing slots, `write`, `sendS` and `sendI` on a
socket that takes the octets and on one that does not, the functions that replace queues only, `checkSequenceNumber`,
the sequence-number fields of an APDU, the reaping step of a tick.
-/
namespace Iec.Srv104
open Iec.KWindow

def Obs.isAsdu : Obs → Bool
  | .asdu _ _ => true
  | _ => false

def ExtNoAsdu (s s' : Slave) : Prop := ∃ l, s'.log = s.log ++ l ∧ ∀ o ∈ l, o.isAsdu = false

theorem ext_refl (s : Slave) : ExtNoAsdu s s := ⟨[], by simp, by simp⟩
theorem ext_trans {a b c : Slave} (h1 : ExtNoAsdu a b) (h2 : ExtNoAsdu b c) : ExtNoAsdu a c := by
  obtain ⟨l1, e1, n1⟩ := h1; obtain ⟨l2, e2, n2⟩ := h2
  exact ⟨l1 ++ l2, by rw [e2, e1, List.append_assoc], fun o ho => by
    rcases List.mem_append.mp ho with h | h
    · exact n1 o h
    · exact n2 o h⟩
theorem ext_of_log_eq {a b : Slave} (h : b.log = a.log) : ExtNoAsdu a b := ⟨[], by simp [h], by simp⟩
theorem ext_snoc {a b : Slave} {o : Obs} (h : b.log = a.log ++ [o]) (ho : o.isAsdu = false) : ExtNoAsdu a b :=
  ⟨[o], h, by simp [ho]⟩

theorem conn_setConn (s : Slave) (i : Nat) (c : Conn) (hi : i < s.conns.length) : (s.setConn i c).conn i = c := by
  simp [Slave.conn, Slave.setConn, List.getD_eq_getElem?_getD, hi]

theorem setConn_log (s : Slave) (i : Nat) (c : Conn) : (s.setConn i c).log = s.log := rfl
theorem setConn_p (s : Slave) (i : Nat) (c : Conn) : (s.setConn i c).p = s.p := rfl
theorem setConn_len (s : Slave) (i : Nat) (c : Conn) : (s.setConn i c).conns.length = s.conns.length := by
  simp [Slave.setConn]

theorem conn_setConn_ne (s : Slave) (i j : Nat) (c : Conn) (h : j ≠ i) : (s.setConn i c).conn j = s.conn j := by
  simp [Slave.conn, Slave.setConn, List.getD_eq_getElem?_getD, List.getElem?_set_ne (Ne.symm h)]

theorem grp_conn (s : Slave) (g : Nat) (x : Group) (i : Nat) : (s.setGrp g x).conn i = s.conn i := rfl

theorem setConn_of_ge (s : Slave) (i : Nat) (c : Conn) (h : s.conns.length ≤ i) : s.setConn i c = s := by
  unfold Slave.setConn; rw [List.set_eq_of_length_le h]

theorem conn_of_ge (s : Slave) (i : Nat) (h : s.conns.length ≤ i) : s.conn i = {} := by
  unfold Slave.conn; rw [List.getD_eq_getElem?_getD, List.getElem?_eq_none h]; rfl

theorem lt_of_conn_ne (s : Slave) (i : Nat) (h : s.conn i ≠ {}) : i < s.conns.length :=
  Nat.lt_of_not_le fun hl => h (conn_of_ge s i hl)

theorem lt_of_started (s : Slave) (i : Nat) (h : (s.conn i).state = 1) : i < s.conns.length :=
  lt_of_conn_ne s i fun e => by rw [e] at h; exact absurd h (by decide)

theorem conn_setConn_cases (s : Slave) (i : Nat) (c : Conn) (j : Nat) :
    (s.setConn i c).conn j = s.conn j ∨ (j = i ∧ i < s.conns.length ∧ (s.setConn i c).conn j = c) := by
  by_cases hj : j = i
  · subst hj
    rcases Nat.lt_or_ge j s.conns.length with hl | hl
    · exact Or.inr ⟨rfl, hl, conn_setConn s j c hl⟩
    · rw [setConn_of_ge s j c hl]; exact Or.inl rfl
  · exact Or.inl (conn_setConn_ne s i j c hj)

/-- a write beyond the table changes nothing, so slot `i` shows `c` afterwards or what it showed before -/
theorem conn_setConn_either {P : Conn → Prop} (s : Slave) (i : Nat) (c : Conn) (h1 : P c) (h2 : P (s.conn i)) :
    P ((s.setConn i c).conn i) := by
  rcases conn_setConn_cases s i c i with h | ⟨_, _, h⟩ <;> rw [h] <;> assumption

theorem conn_setConn_self (s : Slave) (i : Nat) (c : Conn) : (s.setConn i c).conn i = c ∨ (s.setConn i c).conn i = {} := by
  rcases Nat.lt_or_ge i s.conns.length with h | h
  · exact Or.inl (conn_setConn s i c h)
  · rw [setConn_of_ge s i c h]; exact Or.inr (conn_of_ge s i h)

theorem unused_of_ge (s : Slave) (i : Nat) (h : s.conns.length ≤ i) : (s.conn i).isUsed = false := by
  rw [conn_of_ge s i h]

theorem lt_of_used (s : Slave) (i : Nat) (h : (s.conn i).isUsed = true) : i < s.conns.length :=
  lt_of_conn_ne s i fun e => by rw [e] at h; cases h

theorem write_ok (s : Slave) (i : Nat) (h1 : (s.conn i).sock.writeFail = false) (h2 : (s.conn i).sock.peerClosed = false)
    (b : List Nat) : write s i b = (emit s (.tx i b), true) := by
  unfold write; simp only [h1, h2]; rfl

theorem write_fail (s : Slave) (i : Nat) (h : ¬ ((s.conn i).sock.writeFail = false ∧ (s.conn i).sock.peerClosed = false))
    (b : List Nat) : write s i b = (s, false) := by
  unfold write; simp only
  cases h1 : (s.conn i).sock.writeFail <;> cases h2 : (s.conn i).sock.peerClosed <;> first | rfl | exact absurd ⟨h1, h2⟩ h

theorem sendS_ok (s : Slave) (i : Nat) (h1 : (s.conn i).sock.writeFail = false) (h2 : (s.conn i).sock.peerClosed = false) :
    sendS s i = emit s (.tx i [0x68, 0x04, 0x01, 0, seqLo (s.conn i).vr, seqHi (s.conn i).vr]) := by
  unfold sendS; simp only; rw [write_ok s i h1 h2]; rfl

theorem write_cases (s : Slave) (i : Nat) (b : List Nat) :
    write s i b = (s, false) ∨ write s i b = (emit s (.tx i b), true) := by
  by_cases h : (s.conn i).sock.writeFail = false ∧ (s.conn i).sock.peerClosed = false
  · exact .inr (write_ok s i h.1 h.2 b)
  · exact .inl (write_fail s i h b)

/-- the record after `sendI` when the frame was written: `sendIMessage` advances V(S) before it makes the k-buffer
entry, so the entry carries the new V(S) -/
def Conn.sent (c : Conn) (now : Nat) (q : Option (Nat × Nat)) : Conn :=
  { c with vs := (c.vs + 1) % 32768, unconf := 0, t2Triggered := false,
           win := c.win ++ [{ seq := (c.vs + 1) % 32768, sentTime := now, qref := q }] }
/-- the record after `sendI` when the write failed: V(S) stays, and the entry carries it; the count of unacknowledged
received APDUs is cleared on both paths -/
def Conn.unsent (c : Conn) (now : Nat) (q : Option (Nat × Nat)) : Conn :=
  { c with isRunning := false, unconf := 0, win := c.win ++ [{ seq := c.vs, sentTime := now, qref := q }] }
def iFrame (c : Conn) (a : List Nat) : List Nat :=
  [0x68, (a.length + 4) % 256, seqLo c.vs, seqHi c.vs, seqLo c.vr, seqHi c.vr] ++ a

theorem sendI_ok (s : Slave) (i : Nat) (a : List Nat) (q : Option (Nat × Nat)) (h1 : (s.conn i).sock.writeFail = false)
    (h2 : (s.conn i).sock.peerClosed = false) :
    sendI s i a q = (emit s (.tx i (iFrame (s.conn i) a))).setConn i ((s.conn i).sent s.now q) := by
  unfold sendI; simp only; rw [write_ok s i h1 h2]; rfl

theorem sendI_fail (s : Slave) (i : Nat) (a : List Nat) (q : Option (Nat × Nat))
    (h : ¬ ((s.conn i).sock.writeFail = false ∧ (s.conn i).sock.peerClosed = false)) :
    sendI s i a q = s.setConn i ((s.conn i).unsent s.now q) := by
  unfold sendI; simp only; rw [write_fail s i h]; rfl

theorem sendI_cases (s : Slave) (i : Nat) (a : List Nat) (q : Option (Nat × Nat)) :
    sendI s i a q = s.setConn i ((s.conn i).unsent s.now q) ∨
    sendI s i a q = (emit s (.tx i (iFrame (s.conn i) a))).setConn i ((s.conn i).sent s.now q) := by
  by_cases h : (s.conn i).sock.writeFail = false ∧ (s.conn i).sock.peerClosed = false
  · exact .inr (sendI_ok s i a q h.1 h.2)
  · exact .inl (sendI_fail s i a q h)

theorem write_setConn_ok (s : Slave) (i : Nat) (hi : i < s.conns.length) (c : Conn) (h1 : c.sock.writeFail = false)
    (h2 : c.sock.peerClosed = false) (b : List Nat) : write (s.setConn i c) i b = (emit (s.setConn i c) (.tx i b), true) :=
  have e := conn_setConn s i c hi
  write_ok _ i (by rw [e]; exact h1) (by rw [e]; exact h2) b

theorem sendS_setConn_ok (s : Slave) (i : Nat) (hi : i < s.conns.length) (c : Conn) (h1 : c.sock.writeFail = false)
    (h2 : c.sock.peerClosed = false) :
    sendS (s.setConn i c) i = emit (s.setConn i c) (.tx i [0x68, 0x04, 0x01, 0, seqLo c.vr, seqHi c.vr]) := by
  have e := conn_setConn s i c hi
  rw [sendS_ok _ i (by rw [e]; exact h1) (by rw [e]; exact h2), e]

/-! `handleMessage` on the fixed U-format requests and on an S-format APDU: the tests of the dispatch are closed terms.
The handler is made a variable first: `rfl` then evaluates the tests only, and does not unfold the handler on both sides. -/

theorem handleMessage_testfr (s : Slave) (i : Nat) : handleMessage s i [0x68, 4, 0x43, 0, 0, 0] = hmTestFR s i := by
  unfold handleMessage; generalize hmTestFR s i = r; rfl
theorem handleMessage_startdt (s : Slave) (i : Nat) : handleMessage s i [0x68, 4, 0x07, 0, 0, 0] = hmStartDT s i := by
  unfold handleMessage; generalize hmStartDT s i = r; rfl
theorem handleMessage_stopdt (s : Slave) (i : Nat) : handleMessage s i [0x68, 4, 0x13, 0, 0, 0] = hmStopDT s i := by
  unfold handleMessage; generalize hmStopDT s i = r; rfl
theorem handleMessage_sframe (s : Slave) (i : Nat) (lo hi : Nat) :
    handleMessage s i [0x68, 4, 0x01, 0, lo, hi] = hmS s i [0x68, 4, 0x01, 0, lo, hi] := by
  -- evaluation of `&&&` wants closed arguments: the control octet is picked out first
  unfold handleMessage
  simp only [List.length_cons, List.length_nil, List.getD_cons_zero, List.getD_cons_succ]
  rfl

theorem p_foldl {P : Slave → Prop} {α} (f : Slave → α → Slave) (hf : ∀ s a, P s → P (f s a)) :
    ∀ (l : List α) (s : Slave), P s → P (l.foldl f s) := by
  intro l
  induction l with
  | nil => intro s h; exact h
  | cons a l ih => intro s h; exact ih _ (hf s a h)

theorem p_foldl3 {P : Slave → Prop} {α β} (f : Slave × β → α → Slave × β) (hf : ∀ acc a, P acc.1 → P (f acc a).1) :
    ∀ (l : List α) (acc : Slave × β), P acc.1 → P (l.foldl f acc).1 := by
  intro l
  induction l with
  | nil => intro s h; exact h
  | cons a l ih => intro s h; exact ih _ (hf s a h)

theorem foldl_groups {α} (f : Slave → α → Slave) (hf : ∀ s a, ∃ gs, f s a = { s with groups := gs }) (l : List α)
    (s : Slave) : ∃ gs, l.foldl f s = { s with groups := gs } := by
  induction l generalizing s with
  | nil => exact ⟨s.groups, rfl⟩
  | cons a l ih =>
    obtain ⟨g1, e1⟩ := hf s a
    obtain ⟨g2, e2⟩ := ih (f s a)
    exact ⟨g2, by rw [List.foldl_cons, e2, e1]⟩

theorem resetUnconfirmed_eq (s : Slave) (j : Nat) : ∃ gs, resetUnconfirmed s j = { s with groups := gs } := by
  unfold resetUnconfirmed
  exact foldl_groups _ (fun t e => by split <;> exact ⟨_, rfl⟩) _ s

theorem confirmReleased_eq (s : Slave) (i : Nat) (rel : List KEntry) :
    ∃ gs, confirmReleased s i rel = { s with groups := gs } := by
  unfold confirmReleased
  exact foldl_groups _ (fun t e => by split <;> exact ⟨_, rfl⟩) _ s

theorem resetUnconfirmed_same (s : Slave) (j : Nat) : (resetUnconfirmed s j).log = s.log ∧ (resetUnconfirmed s j).conns = s.conns := by
  obtain ⟨gs, e⟩ := resetUnconfirmed_eq s j
  rw [e]; exact ⟨rfl, rfl⟩

theorem confirmReleased_facts (rel : List KEntry) (s : Slave) (i : Nat) :
    (confirmReleased s i rel).conns = s.conns ∧ (confirmReleased s i rel).log = s.log ∧
    (confirmReleased s i rel).p = s.p ∧ (confirmReleased s i rel).now = s.now := by
  obtain ⟨gs, e⟩ := confirmReleased_eq s i rel
  rw [e]; exact ⟨rfl, rfl, rfl, rfl⟩

theorem releaseLoop_sub (ovf : Bool) (ov nr : Nat) : ∀ (win : List KEntry), ∀ e ∈ (releaseLoop ovf ov nr win).2, e ∈ win := by
  intro win
  induction win with
  | nil => intro e he; simp [releaseLoop] at he
  | cons x rest ih =>
    intro e he
    unfold releaseLoop at he
    split at he
    · simp at he
    · split at he
      · simp at he
      · split at he
        · simp at he; simp [he]
        · simp only [List.mem_cons] at he
          rcases he with rfl | he
          · simp
          · exact List.mem_cons_of_mem _ (ih e he)

theorem checkSeq_released_sub (vs : Nat) (win : List KEntry) (nr : Nat) : ∀ e ∈ (checkSeq vs win nr).2.2, e ∈ win := by
  unfold checkSeq
  split
  · exact releaseLoop_sub _ _ _ win
  · intro e he; simp at he

theorem checkSeqConn_cases (s : Slave) (i : Nat) (nr : Nat) :
    ∃ d rel, d ≤ (s.conn i).win.length ∧ (∀ e ∈ rel, e ∈ (s.conn i).win) ∧
      (checkSeqConn s i nr).1 = confirmReleased (s.setConn i { s.conn i with win := (s.conn i).win.drop d }) i rel := by
  unfold checkSeqConn
  simp only
  obtain ⟨d, hd, he⟩ := checkSeq_suffix (s.conn i).vs (s.conn i).win nr
  have hsub := checkSeq_released_sub (s.conn i).vs (s.conn i).win nr
  generalize checkSeq (s.conn i).vs (s.conn i).win nr = r at he hsub
  obtain ⟨ok, w, rel⟩ := r
  exact ⟨d, rel, hd, hsub, by simp only at he ⊢; rw [he]⟩

theorem checkSeqConn_fst (s : Slave) (i : Nat) (nr : Nat) :
    ∃ w gs, (checkSeqConn s i nr).1 = { s.setConn i { s.conn i with win := w } with groups := gs } := by
  obtain ⟨d, rel, _, _, e⟩ := checkSeqConn_cases s i nr
  obtain ⟨gs, e'⟩ := confirmReleased_eq (s.setConn i { s.conn i with win := (s.conn i).win.drop d }) i rel
  exact ⟨_, gs, e.trans e'⟩

theorem checkSeqConn_snd (s : Slave) (i : Nat) (nr : Nat) :
    (checkSeqConn s i nr).2 = valid (s.conn i).vs (s.conn i).win nr := by
  unfold checkSeqConn checkSeq
  by_cases h : valid (s.conn i).vs (s.conn i).win nr = true
  · simp only [if_pos h]; exact h.symm
  · simp only [if_neg h]; exact ((Bool.not_eq_true _).mp h).symm

def frameNS (buf : List Nat) : Nat := (buf.getD 3 0 * 0x100 + (buf.getD 2 0 &&& 0xfe)) / 2
def frameNR (buf : List Nat) : Nat := (buf.getD 5 0 * 0x100 + (buf.getD 4 0 &&& 0xfe)) / 2

/-- the two decodings are that of `handleI` (bit 0 masked off) and that of `hmS` (not masked) -/
theorem seqCodec (n : Nat) (h : n < 32768) :
    seqLo n < 256 ∧ seqHi n < 256 ∧ seqLo n % 2 = 0 ∧
    (seqHi n * 0x100 + (seqLo n &&& 0xfe)) / 2 = n ∧ (seqLo n + seqHi n * 0x100) / 2 = n := by
  unfold seqLo seqHi
  -- masking bit 0 off an even octet changes nothing: 0xfe is 0x7f shifted, and `&&&` commutes with the shift
  have hm : n % 128 * 2 % 256 &&& 0xfe = n % 128 * 2 := by
    have h := Nat.shiftLeft_and_distrib (a := n % 128) (b := 127) (i := 1)
    rw [show n % 128 &&& 127 = n % 128 % 128 from Nat.and_two_pow_sub_one_eq_mod _ 7, Nat.mod_mod, Nat.shiftLeft_eq,
      Nat.shiftLeft_eq] at h
    rw [Nat.mod_eq_of_lt (by omega)]
    exact h.symm
  rw [hm]
  omega

def IsIFrame (buf : List Nat) : Prop :=
  7 ≤ buf.length ∧ buf.getD 0 0 = 0x68 ∧ buf.getD 1 0 = buf.length - 2 ∧ buf.getD 2 0 &&& 1 = 0

def IAccept (s : Slave) (i : Nat) (buf : List Nat) : Prop :=
  frameNS buf = (s.conn i).vr ∧ valid (s.conn i).vs (s.conn i).win (frameNR buf) = true ∧
  s.p.asduHdr ≤ buf.length - 6

instance (s : Slave) (i : Nat) (buf : List Nat) : Decidable (IAccept s i buf) := by
  unfold IAccept; infer_instance

/-- control octet 1 has bit 0 clear; with the default 1 a frame too short to have that octet is not I-format -/
def isI (b : List Nat) : Prop := b.getD 2 1 % 2 = 0

instance (b : List Nat) : Decidable (isI b) := by unfold isI; infer_instance

/-- what the first pass of `handleClientConnections` does to a slot in use whose connection has stopped running -/
def reap (t : Slave) (j : Nat) : Slave :=
  let s := emit t (.ev j "CLOSED")
  let s := resetUnconfirmed s j
  let s := s.setConn j { s.conn j with isUsed := false, state := 0 }
  { s with openConnections := s.openConnections - 1 }

theorem split_append {α} (a l l1 l2 : List α) (x : α) (h : a ++ l = l1 ++ x :: l2) :
    (∃ r, a = l1 ++ x :: r ∧ l2 = r ++ l) ∨ (∃ m1, l1 = a ++ m1 ∧ l = m1 ++ x :: l2) := by
  induction a generalizing l1 with
  | nil => exact Or.inr ⟨l1, by simp, by simpa using h⟩
  | cons y a ih =>
    cases l1 with
    | nil =>
      simp only [List.cons_append, List.nil_append, List.cons.injEq] at h
      exact Or.inl ⟨a, by simp [h.1], by rw [← h.2]⟩
    | cons z l1 =>
      simp only [List.cons_append, List.cons.injEq] at h
      rcases ih l1 h.2 with ⟨r, hr1, hr2⟩ | ⟨m1, hm1, hm2⟩
      · exact Or.inl ⟨r, by rw [h.1, hr1]; rfl, hr2⟩
      · exact Or.inr ⟨m1, by rw [h.1, hm1]; rfl, hm2⟩

end Iec.Srv104
