import Iec.Model.Scaled
/-
The 16-bit round trip through binary32.  A raw value x with a = |x| ≤ 2^15 is encoded exactly, as
a·2^134 units of 2^-149.  Adding 0.5 gives (2a+1)·2^133: 17 significant bits, which fit the 24-bit
significand, so `roundF32` changes nothing and the truncation returns a.
-/
namespace Iec.Norm
open Iec.Scaled

theorem roundF32_exact (m k : Nat) (hm : m < 2 ^ 24) : roundF32 (m * 2 ^ k) = m * 2 ^ k := by
  unfold roundF32
  by_cases hs : m * 2 ^ k = 0
  · simp only [hs, if_true, Nat.zero_le]
  simp only [if_neg hs]
  split
  · rfl
  -- at most 24 + k bits, so the bits shifted out are among the k low zeros
  have hlt : (m * 2 ^ k).log2 < 24 + k := (Nat.log2_lt hs).2 (by
    rw [Nat.pow_add]; exact Nat.mul_lt_mul_of_lt_of_le hm (Nat.le_refl _) (Nat.pow_pos (by decide)))
  have hd : 2 ^ ((m * 2 ^ k).log2 + 1 - 24) ∣ m * 2 ^ k :=
    Nat.dvd_mul_left_of_dvd (Nat.pow_dvd_pow 2 (by omega)) m
  have hp : 0 < 2 ^ ((m * 2 ^ k).log2 + 1 - 24 - 1) := Nat.pow_pos (by decide)
  rw [Nat.mod_eq_zero_of_dvd hd, Nat.div_mul_cancel hd, if_neg (by omega)]

/-- decoding a normal number: sign `p`, exponent field `e`, fraction `m` -/
theorem ofBits_normal (p : Prop) [Decidable p] (e m : Nat) (h0 : 0 < e) (he : e < 255)
    (hm : m < 8388608) :
    F32.ofBits ((if p then 2147483648 else 0) + e * 8388608 + m)
      = .fin (decide p) ((m + 8388608) * 2 ^ (e - 1)) := by
  have h1 : ((if p then 2147483648 else 0) + e * 8388608 + m) / 8388608 % 256 = e := by
    split <;> omega
  have h2 : ((if p then 2147483648 else 0) + e * 8388608 + m) % 8388608 = m := by
    split <;> omega
  have h3 : (((if p then 2147483648 else 0) + e * 8388608 + m) / 2147483648 % 2 = 1) = p := by
    by_cases hp : p <;> simp only [hp, if_true, if_false, eq_iff_iff, iff_true, iff_false] <;> omega
  simp only [F32.ofBits, h1, h2, h3, if_neg (show e ≠ 255 by omega), if_neg (show e ≠ 0 by omega)]

theorem normalise_bounds (a p : Nat) (ha : a ≠ 0) (hp : a.log2 ≤ p) :
    2 ^ p ≤ a * 2 ^ (p - a.log2) ∧ a * 2 ^ (p - a.log2) < 2 ^ (p + 1) := by
  have e1 : 2 ^ p = 2 ^ a.log2 * 2 ^ (p - a.log2) := by rw [← Nat.pow_add]; congr 1; omega
  have e2 : 2 ^ (p + 1) = 2 ^ (a.log2 + 1) * 2 ^ (p - a.log2) := by
    rw [← Nat.pow_add]; congr 1; omega
  rw [e1, e2]
  exact ⟨Nat.mul_le_mul_right _ (Nat.log2_self_le ha),
    Nat.mul_lt_mul_of_lt_of_le Nat.lt_log2_self (Nat.le_refl _) (Nat.pow_pos (by decide))⟩

theorem ofBits_fromScaledBits (x : Int) (h1 : -32768 ≤ x) (h2 : x ≤ 32767) :
    F32.ofBits (fromScaledBits x) = .fin (decide (x < 0)) (x.natAbs * 2 ^ 134) := by
  by_cases ha : x.natAbs = 0
  · rw [show x = 0 by omega]; decide
  have he : x.natAbs.log2 < 16 := (Nat.log2_lt ha).2 (by omega)
  have hb := normalise_bounds x.natAbs 23 ha (by omega)
  simp only [fromScaledBits, if_neg (show ¬x > 32767 by omega),
    if_neg (show ¬x < -32768 by omega), if_neg ha]
  rw [ofBits_normal _ _ _ (by omega) (by omega) (Nat.mod_lt _ (by decide)),
    show x.natAbs * 2 ^ (23 - x.natAbs.log2) % 8388608 + 8388608
      = x.natAbs * 2 ^ (23 - x.natAbs.log2) by omega,
    Nat.mul_assoc, ← Nat.pow_add,
    show 23 - x.natAbs.log2 + (127 + x.natAbs.log2 - 15 - 1) = 134 by omega]

theorem toScaledFin_natAbs (x : Int) (h1 : -32768 ≤ x) (h2 : x ≤ 32767) :
    toScaledFin (decide (x < 0)) (x.natAbs * 2 ^ 134) = x := by
  have hr : roundF32 (x.natAbs * 2 ^ 134 + 2 ^ 133) / 2 ^ 134 = x.natAbs := by
    rw [show x.natAbs * 2 ^ 134 + 2 ^ 133 = (2 * x.natAbs + 1) * 2 ^ 133 by omega,
      roundF32_exact _ _ (by omega)]
    omega
  -- neither clamp fires: `maxN` is 32767·2^134 and `oneN` is 32768·2^134
  by_cases hx : x < 0
  · have c : ¬x.natAbs * 2 ^ 134 > 2 ^ 149 := by omega
    have c0 : x.natAbs * 2 ^ 134 ≠ 0 := by omega
    simp only [toScaledFin, oneN, hx, c, c0, hr, decide_true, decide_false, Bool.not_true,
      Bool.false_and, Bool.true_and, Bool.false_eq_true, if_false, if_true, ne_eq,
      not_false_eq_true]
    omega
  · have c : ¬x.natAbs * 2 ^ 134 > 32767 * 2 ^ 134 := by omega
    simp only [toScaledFin, maxN, hx, c, hr, decide_false, Bool.not_false, Bool.false_and,
      Bool.and_false, Bool.false_eq_true, if_false]
    omega

theorem norm_roundtrip (x : Int) (h1 : -32768 ≤ x) (h2 : x ≤ 32767) :
    toScaled (fromScaledBits x) = some x := by
  simp only [toScaled, ofBits_fromScaledBits x h1 h2, toScaledFin_natAbs x h1 h2]

end Iec.Norm
