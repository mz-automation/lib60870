/-
The frame count bit discipline of a CS101 primary as a check on the frames it writes (C15): the first frame with FCV = 1
after a RESET REMOTE LINK carries FCB = 1, every further one either toggles the bit or is octet for octet the frame before it
(a retransmission). `track` checks one frame against the ghost state `last`, the last FCV frame written since the last reset
frame; `trackB` is the check for a balanced station, whose frames as a secondary (PRM = 0) are not concerned.
At the end: what the primaries call to change state, correct the clock and send, as equations (`SlaveConn.setState_eq`,
`SlaveConn.clock_eq`, `LL.sendFixed_eq`, `sendVar_some`), and the run of a connection whose acknowledgement time-out has passed
(`SlaveConn.run_state4`).
-/
import Iec.Lemmas.Link101Parse
namespace Iec.Link101

def ctrlOf (f : List Nat) : Nat := if f.getD 0 0 = 0x10 then f.getD 1 0 else f.getD 4 0
def fcvOf (f : List Nat) : Bool := ctrlOf f / 16 % 2 = 1
def fcbOf (f : List Nat) : Bool := ctrlOf f / 32 % 2 = 1
def fcOf (f : List Nat) : Nat := ctrlOf f % 16
def prmOf (f : List Nat) : Bool := ctrlOf f / 64 % 2 = 1

/-- `none` = violated; otherwise the ghost after the frame -/
def track (last : Option (List Nat)) (f : List Nat) : Option (Option (List Nat)) :=
  if fcOf f = 0 ∧ fcvOf f = false then some none                 -- RESET REMOTE LINK: start over
  else if fcvOf f = false then some last
  else match last with
    | none => if fcbOf f then some (some f) else none              -- first FCV frame after a reset carries 1
    | some g => if fcbOf f = fcbOf g then (if f = g then some (some f) else none) else some (some f)

def trackObs (last : Option (List Nat)) : Obs → Option (Option (List Nat))
  | .tx f => track last f.bytes
  | _ => some last

def trackAll : Option (List Nat) → List Obs → Option (Option (List Nat))
  | last, [] => some last
  | last, o :: os => match trackObs last o with
    | none => none
    | some last' => trackAll last' os

def trackB (last : Option (List Nat)) (f : List Nat) : Option (Option (List Nat)) :=
  if prmOf f then track last f else some last

def trackObsB (last : Option (List Nat)) : Obs → Option (Option (List Nat))
  | .tx f => trackB last f.bytes
  | _ => some last

def trackAllB : Option (List Nat) → List Obs → Option (Option (List Nat))
  | last, [] => some last
  | last, o :: os => match trackObsB last o with
    | none => none
    | some last' => trackAllB last' os

/-- the bit the ghost expects on the next new FCV frame -/
def Expects (last : Option (List Nat)) (b : Bool) : Prop :=
  match last with
  | none => b = true
  | some g => fcbOf g = !b

/-- user data that fits a frame (the domain of the property; the library accepts longer data, writes nothing and still
counts it as sent) -/
def Framable (aL : Nat) (d : List Nat) : Prop := 1 + aL + d.length ≤ 255
instance (aL : Nat) (d : List Nat) : Decidable (Framable aL d) := by unfold Framable; infer_instance

theorem ctrlOf_fixed (aL c a : Nat) : ctrlOf (fixedFrame aL c a) = c := by
  unfold ctrlOf fixedFrame; simp

theorem ctrlOf_var (aL c a : Nat) (d f : List Nat) (h : varFrame aL c a d = some f) : ctrlOf f = c := by
  rw [(varFrame_eq_some.mp h).2]
  rfl

theorem framable_some (aL c a : Nat) (d : List Nat) (h : Framable aL d) : ∃ f, varFrame aL c a d = some f :=
  ⟨_, varFrame_eq_some.mpr ⟨h, rfl⟩⟩

theorem bits_of_ctrl {f : List Nat} {fc : Nat} {prm dir fcb fcv : Bool} (hfc : fc < 16)
    (h : ctrlOf f = ctrl fc prm dir fcb fcv) : fcOf f = fc ∧ fcvOf f = fcv ∧ fcbOf f = fcb ∧ prmOf f = prm := by
  obtain ⟨c1, c2, c3, c4⟩ := ctrl_decode fc prm dir fcb fcv hfc
  unfold fcOf fcvOf fcbOf prmOf
  rw [h]
  exact ⟨c1, c4, c3, c2⟩

theorem fixed_bits (aL a : Nat) {fc : Nat} (hfc : fc < 16) (prm dir fcb fcv : Bool) :
    let f := fixedFrame aL (ctrl fc prm dir fcb fcv) a
    fcOf f = fc ∧ fcvOf f = fcv ∧ fcbOf f = fcb ∧ prmOf f = prm :=
  bits_of_ctrl hfc (ctrlOf_fixed _ _ _)

theorem var_bits {aL a fc : Nat} (hfc : fc < 16) {prm dir fcb fcv : Bool} {d f : List Nat}
    (h : varFrame aL (ctrl fc prm dir fcb fcv) a d = some f) : fcOf f = fc ∧ fcvOf f = fcv ∧ fcbOf f = fcb ∧ prmOf f = prm :=
  bits_of_ctrl hfc (ctrlOf_var _ _ _ _ _ h)

theorem track_plain (last : Option (List Nat)) (f : List Nat) (hv : fcvOf f = false) (h0 : fcOf f ≠ 0) :
    track last f = some last := by
  unfold track; rw [hv]; simp [h0]

theorem track_reset (last : Option (List Nat)) (f : List Nat) (hv : fcvOf f = false) (h0 : fcOf f = 0) :
    track last f = some none := by
  unfold track; rw [hv, h0]; simp

theorem track_new (last : Option (List Nat)) (f : List Nat) (b : Bool) (hv : fcvOf f = true) (hb : fcbOf f = b)
    (hl : Expects last b) : track last f = some (some f) := by
  unfold track
  rw [hv]
  simp only [Bool.true_eq_false, and_false, if_false]
  cases last with
  | none => simp only [Expects] at hl; rw [hb, hl]; rfl
  | some g =>
    simp only [Expects] at hl ⊢
    rw [hb, hl]
    cases b <;> simp

theorem track_repeat (g : List Nat) (hv : fcvOf g = true) : track (some g) g = some (some g) := by
  unfold track
  rw [hv]
  simp

theorem trackB_pri (last : Option (List Nat)) (f : List Nat) (hp : prmOf f = true) : trackB last f = track last f := by
  unfold trackB; rw [hp]; rfl

theorem trackB_sec (last : Option (List Nat)) (f : List Nat) (hp : prmOf f = false) : trackB last f = some last := by
  unfold trackB; rw [hp]; rfl

abbrev NoTx (os : List Obs) : Prop := ∀ o ∈ os, ∀ f, o ≠ .tx f

theorem noTx_nil : NoTx [] := fun _ h => nomatch h

theorem noTx_cons {o : Obs} {os : List Obs} (ho : ∀ f, o ≠ .tx f) (h : NoTx os) : NoTx (o :: os) :=
  fun x hx => (List.mem_cons.1 hx).elim (fun e => e ▸ ho) (h x)

theorem noTx_opt (p : Prop) [Decidable p] {o : Obs} (ho : ∀ f, o ≠ .tx f) : NoTx (if p then [o] else []) := by
  split
  · exact noTx_cons ho noTx_nil
  · exact noTx_nil

/-! the observations that are not written frames, stated here because `nofun` inside a long proof is matched against
the whole local context -/
theorem Obs.st_ne_tx {a : Int} {n : Nat} (f : TxFrame) : Obs.st a n ≠ .tx f := nofun
theorem Obs.rx_ne_tx {bc : Bool} {d : List Nat} (f : TxFrame) : Obs.rx bc d ≠ .tx f := nofun
theorem Obs.ud_ne_tx {a : Int} {d : List Nat} (f : TxFrame) : Obs.ud a d ≠ .tx f := nofun
theorem Obs.ad_ne_tx {a : Int} (f : TxFrame) : Obs.ad a ≠ .tx f := nofun

theorem noTx_st (p : Prop) [Decidable p] (a : Int) (n : Nat) : NoTx (if p then [Obs.st a n] else []) :=
  noTx_opt p Obs.st_ne_tx

section fold
variable {σ : Type} {t : σ → Obs → Option σ} (ht : ∀ l o, (∀ f, o ≠ .tx f) → t l o = some l)
include ht

/-- both checks are folds that pass over everything but a written frame -/
theorem foldlM_noTx {os : List Obs} (h : NoTx os) (l : σ) : os.foldlM t l = some l := by
  induction os with
  | nil => rfl
  | cons o os ih =>
    rw [List.foldlM_cons, ht l o (h o List.mem_cons_self)]
    exact ih (fun x hx => h x (List.mem_cons_of_mem _ hx))

end fold

theorem trackAll_eq (last : Option (List Nat)) (os : List Obs) : trackAll last os = os.foldlM trackObs last := by
  induction os generalizing last with
  | nil => rfl
  | cons o os ih =>
    rw [List.foldlM_cons, trackAll]
    cases trackObs last o with
    | none => rfl
    | some l => exact ih l

theorem trackAllB_eq (last : Option (List Nat)) (os : List Obs) : trackAllB last os = os.foldlM trackObsB last := by
  induction os generalizing last with
  | nil => rfl
  | cons o os ih =>
    rw [List.foldlM_cons, trackAllB]
    cases trackObsB last o with
    | none => rfl
    | some l => exact ih l

theorem trackAll_noTx (last : Option (List Nat)) {os : List Obs} (h : NoTx os) : trackAll last os = some last := by
  rw [trackAll_eq]
  exact foldlM_noTx (fun l o ho => by cases o with | tx f => exact absurd rfl (ho f) | _ => rfl) h last

theorem trackAllB_noTx (last : Option (List Nat)) {os : List Obs} (h : NoTx os) : trackAllB last os = some last := by
  rw [trackAllB_eq]
  exact foldlM_noTx (fun l o ho => by cases o with | tx f => exact absurd rfl (ho f) | _ => rfl) h last

theorem trackAll_tx {last last' : Option (List Nat)} {f : TxFrame} {os : List Obs} (ht : track last f.bytes = some last')
    (h : NoTx os) : trackAll last (.tx f :: os) = some last' := by
  rw [trackAll, trackObs, ht]; exact trackAll_noTx last' h

theorem trackAllB_tx {last last' : Option (List Nat)} {f : TxFrame} {os : List Obs} (ht : trackB last f.bytes = some last')
    (h : NoTx os) : trackAllB last (.tx f :: os) = some last' := by
  rw [trackAllB, trackObsB, ht]; exact trackAllB_noTx last' h

theorem trackAll_append {last l1 : Option (List Nat)} {a : List Obs} (h : trackAll last a = some l1) (b : List Obs) :
    trackAll last (a ++ b) = trackAll l1 b := by
  rw [trackAll_eq] at h; rw [trackAll_eq, trackAll_eq, List.foldlM_append, h]; rfl

theorem trackAllB_append {last l1 : Option (List Nat)} {a : List Obs} (h : trackAllB last a = some l1) (b : List Obs) :
    trackAllB last (a ++ b) = trackAllB l1 b := by
  rw [trackAllB_eq] at h; rw [trackAllB_eq, trackAllB_eq, List.foldlM_append, h]; rfl

theorem SlaveConn.setState_eq (c : SlaveConn) (n : Nat) :
    c.setState n = ({ c with state := n }, if c.state ≠ n then [.st c.address n] else []) := by
  unfold SlaveConn.setState
  split
  · rfl
  · rename_i h; cases Decidable.of_not_not h; rfl

theorem SlaveConn.clock_eq (c : SlaveConn) (now : Nat) :
    (if c.lastSend > now then { c with lastSend := now } else c) = { c with lastSend := min c.lastSend now } := by
  split
  · rename_i h; rw [Nat.min_eq_right (Nat.le_of_lt h)]
  · rename_i h; rw [Nat.min_eq_left (Nat.le_of_not_gt h)]

theorem LL.sendFixed_eq (l : LL) (fc a : Nat) (prm dir acd dfc : Bool) : l.sendFixed fc a prm dir acd dfc =
    ({ l with buf := writeAt l.buf 0 (fixedFrame l.p.addrLen (ctrl fc prm dir acd dfc) a) },
     [.tx ⟨l.p.addrLen, fixedFrame l.p.addrLen (ctrl fc prm dir acd dfc) a, fixedFrame_wf _ _ _ l.p.hA⟩]) := rfl

theorem sendVar_some (l : LL) (fc a : Nat) (prm dir acd dfc : Bool) (d f : List Nat)
    (hv : varFrame l.p.addrLen (ctrl fc prm dir acd dfc) a d = some f) :
    ∃ wf, l.sendVar fc a prm dir acd dfc d = ({ l with buf := writeAt l.buf 0 f }, [.tx ⟨l.p.addrLen, f, wf⟩]) := by
  unfold LL.sendVar
  simp only
  split
  · rename_i h; rw [hv] at h; cases h
  · rename_i f' h
    rw [hv] at h
    cases h
    exact ⟨varFrame_wf _ _ _ _ _ l.p.hA hv, rfl⟩

/-- the state machine of a connection that waits for the confirmation of user data, once the acknowledgement time-out has
passed: link error after the repeat time-out, the frame again before it -/
theorem SlaveConn.run_state4 (c : SlaveConn) (l : LL) (now : Nat) (h4 : c.pstate = 4) (hle : c.lastSend ≤ now)
    (ha : now > c.lastSend + l.p.tAck) :
    c.run l now =
      if now > c.origSend + l.p.tRepeat then
        ({ c with waiting := false, lastSend := now, state := 1, pstate := 7 }, l, if c.state ≠ 1 then [.st c.address 1] else [])
      else ({ c with lastSend := now }, (l.sendVar 3 c.address true false (!c.nextFcb) true c.msg).1,
        (l.sendVar 3 c.address true false (!c.nextFcb) true c.msg).2) := by
  have hn : ∀ n, n ≠ 4 → ¬ c.pstate = n := fun n hn e => hn (e.symm.trans h4)
  -- along the guards of `run`: state 4, the clock is not ahead, the acknowledgement time-out has passed
  delta SlaveConn.run
  extract_lets ps p cC
  have hC : cC = c := if_neg (Nat.not_lt.mpr hle)
  rw [if_neg (hn 7 (by decide)), if_neg (hn 0 (by decide)), if_neg (hn 1 (by decide)), if_neg (hn 2 (by decide)),
    if_neg (hn 3 (by decide)), if_pos h4, hC, if_pos ha, SlaveConn.setState_eq]

/-- the state a primary returns to when the secondary reports DFC (its buffers are full): the one it is in unless it was
establishing the link (back to 1) or waiting for a confirmation (6 = PLL_SECONDARY_LINK_LAYER_BUSY) -/
theorem dfc_state {ps ns : Nat} (h : (if ps = 1 ∨ ps = 2 then 1 else if ps = 4 ∨ ps = 6 then 6 else ps) = ns) :
    ns ≠ 4 ∧ (ns = ps ∨ ns ≠ 5) ∧ (ns = 2 ∨ ns = 3 → ps = 3) := by
  subst h
  by_cases h12 : ps = 1 ∨ ps = 2
  · rw [if_pos h12]; exact ⟨by decide, .inr (by decide), fun h => absurd h (by decide)⟩
  rw [if_neg h12]
  by_cases h46 : ps = 4 ∨ ps = 6
  · rw [if_pos h46]; exact ⟨by decide, .inr (by decide), fun h => absurd h (by decide)⟩
  rw [if_neg h46]
  exact ⟨fun h => h46 (.inl h), .inl rfl, fun h => h.elim (fun h2 => absurd (.inr h2) h12) id⟩

theorem ite_ind {α : Type} {P : α → Prop} {g : Prop} [Decidable g] {a b : α} (ha : g → P a) (hb : ¬ g → P b) :
    P (if g then a else b) := by
  split
  · exact ha ‹_›
  · exact hb ‹_›

end Iec.Link101
