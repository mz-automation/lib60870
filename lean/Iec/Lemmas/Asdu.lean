import Iec.Model.Asdu
import Iec.Lemmas.Layout
/-
ASDU-level lemmas: what an accepted addition appends, and reading element i back
from a payload that is a concatenation of equal-sized element encodings.
-/
namespace Iec.Asdu
open Iec.Layout

def noSeg : List FieldSpec → Bool
  | [] => true
  | .seg :: _ => false
  | _ :: fs => noSeg fs

abbrev NoSeg (fs : List FieldSpec) : Prop := noSeg fs = true

theorem fieldsSize_fixed (fs : List FieldSpec) (vs : List Nat) (h : NoSeg fs) (hw : WFVals fs vs) :
    fieldsSize fs vs = fixedSize fs := by
  fun_induction WFVals fs vs <;> simp_all [fieldsSize, fixedSize, NoSeg, noSeg]

theorem fixedSize_le (fs : List FieldSpec) (vs : List Nat) (hw : WFVals fs vs) :
    fixedSize fs ≤ fieldsSize fs vs := by
  fun_induction WFVals fs vs <;> simp_all [fieldsSize, fixedSize] <;> omega

theorem decodeFields_isSome (fs : List FieldSpec) (hn : NoSeg fs) (bs : List Nat) :
    (decodeFields fs bs).isSome = true ↔ fixedSize fs ≤ bs.length := by
  fun_induction decodeFields fs bs
  case case1 => simp [fixedSize]
  case case2 h => simp [fixedSize]; omega
  case case3 h ih => rw [Option.isSome_map, ih hn, List.length_drop, fixedSize]; omega
  case case4 ih | case5 ih => rw [Option.isSome_map, ih hn, fixedSize, List.length_cons]; omega
  case case6 | case7 => cases hn
  case case8 head _ h => cases head <;> simp_all [fixedSize, NoSeg, noSeg]

theorem getD_drop (bs : List Nat) (n k : Nat) : (bs.drop n).getD k 0 = bs.getD (n + k) 0 := by
  simp [List.getD_eq_getElem?_getD]

theorem decodeFields_isSome_seg (fs : List FieldSpec) (hn : NoSeg fs) (bs : List Nat) :
    (decodeFields (fs ++ [.seg]) bs).isSome = true ↔
      fixedSize fs + 1 ≤ bs.length ∧ fixedSize fs + 1 + bs.getD (fixedSize fs) 0 ≤ bs.length := by
  fun_induction decodeFields fs bs
  case case1 bs =>
    cases bs with
    | nil => simp [decodeFields]
    | cons los bs => simp only [List.nil_append, decodeFields, fixedSize]; split <;> simp <;> omega
  case case2 h => simp [decodeFields, fixedSize, h]; omega
  case case3 n fs bs h ih =>
    rw [List.cons_append, decodeFields, if_neg h, Option.isSome_map, ih hn, List.length_drop, fixedSize, getD_drop]
    omega
  case case4 ih | case5 ih =>
    rw [List.cons_append, decodeFields, Option.isSome_map, ih hn, fixedSize, List.length_cons, Nat.add_comm 1,
      List.getD_cons_succ]
    omega
  case case6 | case7 => cases hn
  case case8 head _ h => cases head <;> simp_all [decodeFields]

def chunk (p : Params) (e : TypeEntry) (withIoa : Bool) (x : Nat × List Nat) : List Nat :=
  (if withIoa then leBytes p.sizeOfIOA x.1 else []) ++ (encodeFields e.fields x.2).getD []

theorem chunk_length (p : Params) (e : TypeEntry) (w : Bool) (x : Nat × List Nat)
    (hn : NoSeg e.fields) (hw : WFVals e.fields x.2) :
    (chunk p e w x).length = (if w then p.sizeOfIOA else 0) + fixedSize e.fields := by
  obtain ⟨bs, he, hl, _⟩ := encodeFields_wf e.fields x.2 hw
  unfold chunk
  rw [he, Option.getD_some, List.length_append, hl, fieldsSize_fixed _ _ hn hw]
  cases w <;> simp [leBytes_length]

theorem drop_flatten_eq {α : Type} (f : α → List Nat) (k : Nat) (l : List α)
    (h : ∀ x ∈ l, (f x).length = k) (i : Nat) :
    ((l.map f).flatten).drop (i * k) = ((l.drop i).map f).flatten := by
  induction l generalizing i with
  | nil => simp
  | cons x xs ih =>
    cases i with
    | zero => simp
    | succ i =>
      have hx : (f x).length = k := h x (by simp)
      simp only [List.map_cons, List.flatten_cons, List.drop_succ_cons]
      rw [Nat.succ_mul, Nat.add_comm, ← List.drop_drop]
      rw [List.drop_left' hx]
      exact ih (fun y hy => h y (by simp [hy])) i

theorem decodeObj_at (p : Params) (e : TypeEntry) (w : Bool) (ioa : Nat) (hio : ioa < 256 ^ p.sizeOfIOA)
    (pre bs vs r : List Nat) (hfix : fixedSize e.fields ≤ bs.length)
    (hdec : decodeFields e.fields bs = some (vs, r)) :
    decodeObj p e (pre ++ ((if w then leBytes p.sizeOfIOA ioa else []) ++ bs)) pre.length w =
      some (if w then ioa else 0, vs) := by
  have hl := leBytes_length p.sizeOfIOA ioa
  unfold decodeObj
  rw [if_neg (by cases w <;> simp [hl] <;> omega), List.drop_left]
  cases w
  · simp [hdec]
  · simp [hdec, parseIOA, List.take_left' hl, List.drop_left' hl, leVal_leBytes _ _ hio]

theorem decodeObj_chunk (p : Params) (e : TypeEntry) (x : Nat × List Nat) (w : Bool)
    (hw : WFVals e.fields x.2) (hio : x.1 < 256 ^ p.sizeOfIOA) (pre rest : List Nat) :
    decodeObj p e (pre ++ chunk p e w x ++ rest) pre.length w = some (if w then x.1 else 0, x.2) := by
  obtain ⟨bs, he, hl, _⟩ := encodeFields_wf e.fields x.2 hw
  have hfx := fixedSize_le e.fields x.2 hw
  have := decodeObj_at p e w x.1 hio pre (bs ++ rest) x.2 rest (by simp; omega)
    (decode_encode_fields e.fields x.2 hw bs he rest)
  simpa [chunk, he] using this

theorem vsq_inc (b : Nat) (hb : b < 256) (hc : (b &&& 0x7f) < 127) :
    (((b + 1) % 256) &&& 0x7f = (b &&& 0x7f) + 1) ∧ (((b + 1) % 256) &&& 0x80 = b &&& 0x80) := by
  rw [Iec.Bits.and_127] at hc
  rw [Iec.Bits.and_127, Iec.Bits.and_127, Iec.Bits.and_80 hb, Iec.Bits.and_80 (Nat.mod_lt _ (by omega))]
  omega

/-- the `isSequence` argument `CS101_ASDU_addInformationObject` passes to `InformationObject_encode`:
`false` for the first object, the SQ bit afterwards -/
def Asdu.nextSeq (a : Asdu) : Bool := a.count != 0 && a.isSequence

theorem encodeObj_some (a : Asdu) (e : TypeEntry) (sq : Bool) (ioa : Nat) (vals bs : List Nat)
    (h : encodeObj a e sq ioa vals = some bs) :
    ∃ fb, encodeFields e.fields vals = some fb ∧
      bs = (if sq then [] else leBytes a.p.sizeOfIOA ioa) ++ fb ∧
      ¬ (a.spaceLeft < (guardSize a e sq vals : Int)) := by
  unfold encodeObj at h
  split at h
  · simp at h
  · split at h
    · simp at h
    · rename_i _ hsp
      simp only [Option.map_eq_some_iff] at h
      obtain ⟨fb, hfb, rfl⟩ := h
      exact ⟨fb, hfb, rfl, hsp⟩

theorem add_accept_shape (a : Asdu) (e : TypeEntry) (ioa : Nat) (vals : List Nat) (a' : Asdu)
    (h : a.add e ioa vals = (a', true)) :
    ∃ bs, encodeObj a e a.nextSeq ioa vals = some bs ∧ a'.p = a.p ∧
      a'.bytes = setByte ((if a.count = 0 then setByte a.bytes 0 (e.typeId % 256) else a.bytes) ++ bs) 1
        ((a.byte 1 + 1) % 256) ∧
      a.count < 127 ∧ (a.count ≠ 0 → a.typeId = e.typeId % 256) ∧
      (a.count ≠ 0 → a.isSequence = true → ioa = parseIOA a.p.sizeOfIOA a.payload + a.count) := by
  unfold Asdu.add at h
  simp only at h
  split at h
  · rename_i bs hres
    simp only [Prod.mk.injEq, and_true] at h
    subst h
    by_cases h0 : a.count = 0
    · simp only [h0, if_true] at hres
      refine ⟨bs, ?_, rfl, by simp [h0], by omega, by simp [h0], by simp [h0]⟩
      simp [Asdu.nextSeq, h0, hres]
    · simp only [h0, if_false] at hres
      by_cases h1 : a.count < 0x7f
      · simp only [h1, if_true] at hres
        by_cases h2 : a.typeId = e.typeId % 256
        · simp only [h2, if_true] at hres
          by_cases h3 : a.isSequence = true
          · simp only [h3, if_true] at hres
            by_cases h4 : ioa = parseIOA a.p.sizeOfIOA a.payload + a.count
            · simp only [h4, if_true] at hres
              refine ⟨bs, ?_, rfl, by simp [h0], h1, fun _ => h2, fun _ _ => h4⟩
              have : a.nextSeq = true := by simp [Asdu.nextSeq, h3, h0]
              rw [this, h4]; exact hres
            · simp [h4] at hres
          · simp only [h3] at hres
            refine ⟨bs, ?_, rfl, by simp [h0], h1, fun _ => h2, fun _ h => absurd h h3⟩
            have : a.nextSeq = false := by simp [Asdu.nextSeq, h3]
            rw [this]; simpa using hres
        · simp [h2] at hres
      · simp [h1] at hres
  · simp at h


def payloadOf (p : Params) (e : TypeEntry) (sq : Bool) (elems : List (Nat × List Nat)) : List Nat :=
  if sq then
    match elems with
    | [] => []
    | x :: _ => leBytes p.sizeOfIOA x.1 ++ (elems.map (chunk p e false)).flatten
  else (elems.map (chunk p e true)).flatten

/-- `a` is an ASDU under construction that holds exactly `elems` -/
structure Built (a : Asdu) (e : TypeEntry) (elems : List (Nat × List Nat)) : Prop where
  hdr4 : 4 ≤ a.p.hdrLen
  len : a.p.hdrLen ≤ a.bytes.length
  oct : ∀ b ∈ a.bytes, b < 256
  count : a.count = elems.length
  typ : elems ≠ [] → a.typeId = e.typeId % 256
  pay : a.payload = payloadOf a.p e a.isSequence elems
  wf : ∀ x ∈ elems, WFVals e.fields x.2 ∧ x.1 < 256 ^ a.p.sizeOfIOA
  consec : a.isSequence = true → ∀ i (h : i < elems.length), (elems[i]).1 = (elems.headD (0, [])).1 + i

theorem payloadOf_snoc (p : Params) (e : TypeEntry) (sq : Bool) (elems : List (Nat × List Nat))
    (x : Nat × List Nat) :
    payloadOf p e sq (elems ++ [x]) =
      payloadOf p e sq elems ++ chunk p e (!(sq && !elems.isEmpty)) x := by
  unfold payloadOf
  cases sq with
  | false => simp
  | true =>
    cases elems with
    | nil => simp [chunk]
    | cons y ys => simp


theorem getD_set_same (l : List Nat) (i v : Nat) (h : i < l.length) : (l.set i v).getD i 0 = v := by
  simp [List.getD_eq_getElem?_getD, h]

theorem getD_set_ne (l : List Nat) (i j v : Nat) (h : i ≠ j) : (l.set i v).getD j 0 = l.getD j 0 := by
  simp [List.getD_eq_getElem?_getD, List.getElem?_set_ne h]

theorem getD_append_lt (l m : List Nat) (i : Nat) (h : i < l.length) : (l ++ m).getD i 0 = l.getD i 0 := by
  simp [List.getD_eq_getElem?_getD, List.getElem?_append_left h]

theorem mem_set_lt (l : List Nat) (i v : Nat) (hv : v < 256) (h : ∀ b ∈ l, b < 256) :
    ∀ b ∈ l.set i v, b < 256 := by
  intro b hb
  rcases List.mem_or_eq_of_mem_set hb with hb | rfl
  · exact h b hb
  · exact hv

theorem byte_lt (a : Asdu) (i : Nat) (h : ∀ b ∈ a.bytes, b < 256) : a.byte i < 256 := by
  unfold Asdu.byte
  rw [List.getD_eq_getElem?_getD]
  cases hg : a.bytes[i]? with
  | none => simp
  | some v => simp; exact h v (List.mem_of_getElem? hg)

theorem parseIOA_leBytes (n v : Nat) (h : v < 256 ^ n) (rest : List Nat) :
    parseIOA n (leBytes n v ++ rest) = v := by
  unfold parseIOA
  rw [List.take_left' (leBytes_length n v), leVal_leBytes n v h]

/-- the cause octet `create` writes: the cause in the low six bits, T and P/N above them -/
theorem cot_octet (cot : Nat) (t n : Bool) :
    ((cot &&& 0x3f) ||| (if t then 0x80 else 0) ||| (if n then 0x40 else 0)) % 256 &&& 0x3f = cot % 64 ∧
    ((((cot &&& 0x3f) ||| (if t then 0x80 else 0) ||| (if n then 0x40 else 0)) % 256 &&& 0x80) == 0x80) = t ∧
    ((((cot &&& 0x3f) ||| (if t then 0x80 else 0) ||| (if n then 0x40 else 0)) % 256 &&& 0x40) == 0x40) = n := by
  rw [← Iec.Bits.and_63 cot]
  cases t <;> cases n <;> mask_simp [Nat.reduceOr]

theorem create_oct (p : Params) (sq : Bool) (cot oa ca : Nat) (t n : Bool) :
    ∀ b ∈ (create p sq cot oa ca t n).bytes, b < 256 := by
  simp only [create, List.forall_mem_append, List.forall_mem_cons]
  refine ⟨⟨⟨by omega, by cases sq <;> decide, Nat.mod_lt _ (by omega), nofun⟩, ?_⟩, ?_⟩ <;> split <;> simp <;>
    omega

theorem create_length (p : Params) (hp : p.Legal) (sq : Bool) (cot oa ca : Nat) (t n : Bool) :
    (create p sq cot oa ca t n).bytes.length = p.hdrLen := by
  obtain ⟨h1 | h1, h2 | h2, _⟩ := hp <;> simp [create, Params.hdrLen, h1, h2]

/-- Assumes the storage facts only (not `Built`, not `Inv`), so that `built_add` and `add_accepted` both
follow from it. -/
theorem add_bytes (a : Asdu) (h4 : 4 ≤ a.p.hdrLen) (hlen : a.p.hdrLen ≤ a.bytes.length)
    (hoct : ∀ b ∈ a.bytes, b < 256) (e : TypeEntry) (ioa : Nat) (vals : List Nat) (a' : Asdu)
    (h : a.add e ioa vals = (a', true)) :
    ∃ fb, encodeFields e.fields vals = some fb ∧ a'.p = a.p ∧
      a'.payload = a.payload ++ ((if a.nextSeq then [] else leBytes a.p.sizeOfIOA ioa) ++ fb) ∧
      a'.count = a.count + 1 ∧ a.count < 127 ∧ a'.isSequence = a.isSequence ∧
      a'.typeId = e.typeId % 256 ∧
      (a.count ≠ 0 → a.isSequence = true → ioa = parseIOA a.p.sizeOfIOA a.payload + a.count) ∧
      (∀ i, 2 ≤ i → i < a.p.hdrLen → a'.byte i = a.byte i) ∧
      a.p.hdrLen ≤ a'.bytes.length ∧ a'.bytes.length ≤ a.p.maxSize ∧ ∀ b ∈ a'.bytes, b < 256 := by
  obtain ⟨bs, henc, hp, hbytes, hc127, htyp, hcons⟩ := add_accept_shape a e ioa vals a' h
  obtain ⟨fb, hfb, hbs, hspace⟩ := encodeObj_some a e a.nextSeq ioa vals bs henc
  obtain ⟨hfl, hflt⟩ := encodeFields_length e.fields vals fb hfb
  -- `B`: the old octets with the type id written at the first addition
  obtain ⟨B, hB⟩ : ∃ B, B = (if a.count = 0 then setByte a.bytes 0 (e.typeId % 256) else a.bytes) :=
    ⟨_, rfl⟩
  rw [← hB] at hbytes
  have hset : a'.bytes = (B ++ bs).set 1 ((a.byte 1 + 1) % 256) := hbytes
  have hBlen : B.length = a.bytes.length := by rw [hB]; split <;> simp [setByte]
  have hBdrop : B.drop a.p.hdrLen = a.payload := by
    rw [hB]; simp only [Asdu.payload]; split
    · exact List.drop_set_of_lt (by omega)
    · rfl
  have hBget : ∀ i, 1 ≤ i → B.getD i 0 = a.byte i := by
    intro i hi; rw [hB]; split
    · exact getD_set_ne _ 0 i _ (by omega)
    · rfl
  have hBoct : ∀ b ∈ B, b < 256 := by
    rw [hB]; split
    · exact mem_set_lt _ _ _ (Nat.mod_lt _ (by omega)) hoct
    · exact hoct
  have hbyte : ∀ i, i ≠ 1 → i < a.p.hdrLen → a'.byte i = B.getD i 0 := by
    intro i h1 hi
    unfold Asdu.byte
    rw [hset, getD_set_ne _ 1 i _ (Ne.symm h1), getD_append_lt _ _ _ (by omega)]
  have hinc := vsq_inc (a.byte 1) (byte_lt a 1 hoct) hc127
  have hbyte1 : a'.byte 1 = (a.byte 1 + 1) % 256 := by
    unfold Asdu.byte; rw [hset]
    exact getD_set_same _ 1 _ (by simp [hBlen]; omega)
  have hbl : bs.length = (if a.nextSeq then 0 else a.p.sizeOfIOA) + fieldsSize e.fields vals := by
    rw [hbs, List.length_append, hfl]; cases a.nextSeq <;> simp [leBytes_length]
  have hlen' : a'.bytes.length = a.bytes.length + bs.length := by
    rw [hset, List.length_set, List.length_append, hBlen]
  refine ⟨fb, hfb, hp, ?_, by unfold Asdu.count; rw [hbyte1]; exact hinc.1, hc127,
    by unfold Asdu.isSequence; rw [hbyte1, hinc.2], ?_, hcons,
    fun i h2 hi => by rw [hbyte i (by omega) hi, hBget i (by omega)], by omega, ?_, ?_⟩
  · unfold Asdu.payload
    rw [hset, hp, List.drop_set_of_lt (by omega), List.drop_append_of_le_length (by omega), hBdrop, hbs]
    rfl
  · unfold Asdu.typeId
    rw [hbyte 0 (by omega) (by omega), hB]; split
    · exact getD_set_same _ 0 _ (by omega)
    · rename_i hc0; exact htyp hc0
  · unfold Asdu.spaceLeft Asdu.payloadSize guardSize at hspace
    rw [hlen', hbl]
    cases hns : a.nextSeq <;> simp only [hns, Bool.false_eq_true, if_false, if_true] at hspace ⊢ <;> omega
  · rw [hset]
    apply mem_set_lt _ _ _ (Nat.mod_lt _ (by omega))
    intro b hbm
    rcases List.mem_append.mp hbm with hbm | hbm
    · exact hBoct b hbm
    · rw [hbs] at hbm
      rcases List.mem_append.mp hbm with hbm | hbm
      · split at hbm
        · simp at hbm
        · exact leBytes_lt _ _ b hbm
      · exact hflt b hbm

theorem built_add (a : Asdu) (e : TypeEntry) (elems : List (Nat × List Nat)) (hb : Built a e elems)
    (ioa : Nat) (vals : List Nat) (hw : WFVals e.fields vals) (hio : ioa < 256 ^ a.p.sizeOfIOA)
    (a' : Asdu) (h : a.add e ioa vals = (a', true)) :
    Built a' e (elems ++ [(ioa, vals)]) ∧ a'.p = a.p ∧ a'.isSequence = a.isSequence ∧
    a'.bytes.length ≤ a.p.maxSize ∧
    (∀ i, 2 ≤ i → i < a.p.hdrLen → a'.byte i = a.byte i) := by
  obtain ⟨fb, hfb, hp, hpay, hcount, _, hseq, htyp, hcons, hbyteI, hlen, hsize, hoct⟩ :=
    add_bytes a hb.hdr4 hb.len hb.oct e ioa vals a' h
  have hnext : a.nextSeq = (a.isSequence && !elems.isEmpty) := by
    unfold Asdu.nextSeq
    rw [hb.count, Bool.and_comm]
    cases elems <;> simp
  refine ⟨⟨hp ▸ hb.hdr4, hp ▸ hlen, hoct, by rw [hcount, hb.count]; simp, fun _ => htyp, ?_, ?_, ?_⟩,
    hp, hseq, hsize, hbyteI⟩
  · rw [hpay, hp, hseq, payloadOf_snoc, hb.pay, hnext]; unfold chunk; rw [hfb]
    cases (a.isSequence && !elems.isEmpty) <;> simp
  · intro x hx
    rw [hp]
    rcases List.mem_append.mp hx with hx | hx
    · exact hb.wf x hx
    · simp only [List.mem_singleton] at hx; subst hx; exact ⟨hw, hio⟩
  · -- consecutive addresses: old elements by `hb.consec`, the new one by the continuity test of `add`
    intro hs i hi
    rw [hseq] at hs
    cases elems with
    | nil =>
      have : i = 0 := by simpa using hi
      subst this; simp
    | cons y ys =>
      by_cases hil : i < (y :: ys).length
      · have := hb.consec hs i hil
        simp only [List.cons_append, List.headD_cons] at this ⊢
        rw [show (y :: (ys ++ [(ioa, vals)]))[i] = ((y :: ys) ++ [(ioa, vals)])[i]'(by simpa using hi) from rfl]
        rw [List.getElem_append_left hil]
        exact this
      · have hie : i = (y :: ys).length := by
          simp only [List.length_append, List.length_cons, List.length_nil] at hi hil ⊢; omega
        subst hie
        rw [List.getElem_append_right (by simp)]
        simp only [Nat.sub_self, List.getElem_cons_zero]
        have hc0 : a.count ≠ 0 := by rw [hb.count]; simp
        rw [hcons hc0 hs, hb.pay, hs, hb.count]
        simp only [payloadOf, if_true]
        rw [parseIOA_leBytes _ _ (hb.wf y (by simp)).2]
        simp


theorem length_flatten_eq {α : Type} (f : α → List Nat) (k : Nat) (l : List α)
    (h : ∀ x ∈ l, (f x).length = k) : ((l.map f).flatten).length = l.length * k := by
  induction l with
  | nil => simp
  | cons x xs ih =>
    simp only [List.map_cons, List.flatten_cons, List.length_append, List.length_cons]
    rw [h x (by simp), ih (fun y hy => h y (by simp [hy])), Nat.succ_mul]; omega

theorem split_chunks (p : Params) (e : TypeEntry) (w : Bool) (elems : List (Nat × List Nat))
    (hn : NoSeg e.fields) (hw : ∀ x ∈ elems, WFVals e.fields x.2) (i : Nat) (hi : i < elems.length) :
    ∃ pre rest, (elems.map (chunk p e w)).flatten = pre ++ chunk p e w elems[i] ++ rest ∧
      pre.length = i * ((if w then p.sizeOfIOA else 0) + fixedSize e.fields) := by
  let k := (if w then p.sizeOfIOA else 0) + fixedSize e.fields
  have hk : ∀ x ∈ elems, (chunk p e w x).length = k := fun x hx => chunk_length p e w x hn (hw x hx)
  refine ⟨((elems.map (chunk p e w)).flatten).take (i * k), (((elems.drop (i + 1)).map (chunk p e w)).flatten), ?_, ?_⟩
  · have hd := drop_flatten_eq (chunk p e w) k elems hk i
    rw [List.drop_eq_getElem_cons hi] at hd
    simp only [List.map_cons, List.flatten_cons] at hd
    rw [List.append_assoc, ← hd, List.take_append_drop]
  · rw [List.length_take, length_flatten_eq _ k _ hk]
    exact Nat.min_eq_left (Nat.mul_le_mul_right k (Nat.le_of_lt hi))

theorem get_chunk (p : Params) (e : TypeEntry) (w : Bool) (elems : List (Nat × List Nat)) (hn : NoSeg e.fields)
    (hw : ∀ x ∈ elems, WFVals e.fields x.2 ∧ x.1 < 256 ^ p.sizeOfIOA) (pre0 : List Nat) (i : Nat)
    (hi : i < elems.length) :
    decodeObj p e (pre0 ++ (elems.map (chunk p e w)).flatten)
      (pre0.length + i * ((if w then p.sizeOfIOA else 0) + fixedSize e.fields)) w =
      some (if w then elems[i].1 else 0, elems[i].2) := by
  obtain ⟨pre, rest, hsplit, hpl⟩ := split_chunks p e w elems hn (fun x hx => (hw x hx).1) i hi
  have hx := hw _ (List.getElem_mem hi)
  rw [hsplit, ← hpl, ← List.length_append]
  simpa only [List.append_assoc] using decodeObj_chunk p e elems[i] w hx.1 hx.2 (pre0 ++ pre) rest

structure Inv (a : Asdu) : Prop where
  legal : a.p.Legal
  len : a.p.hdrLen ≤ a.bytes.length
  fits : a.bytes.length ≤ 256
  oct : ∀ b ∈ a.bytes, b < 256

theorem Inv.hdr4 {a : Asdu} (h : Inv a) : 4 ≤ a.p.hdrLen := by
  obtain ⟨h1, h2, _⟩ := h.legal; unfold Params.hdrLen; omega

theorem Inv.hdr6 {a : Asdu} (h : Inv a) : a.p.hdrLen ≤ 6 := by
  obtain ⟨h1, h2, _⟩ := h.legal; unfold Params.hdrLen; omega

theorem add_refused (a : Asdu) (e : TypeEntry) (ioa : Nat) (vals : List Nat) (a' : Asdu)
    (h : a.add e ioa vals = (a', false)) : a' = a := by
  unfold Asdu.add at h
  simp only at h
  split at h
  · simp at h
  · simp only [Prod.mk.injEq, and_true] at h; exact h.symm

/-- what an accepted addition does, for arbitrary (not only well-formed) stored values -/
theorem add_accepted (a : Asdu) (hi : Inv a) (hm : a.p.maxSize ≤ 256) (e : TypeEntry) (ioa : Nat)
    (vals : List Nat) (a' : Asdu) (h : a.add e ioa vals = (a', true)) :
    ∃ fb, encodeFields e.fields vals = some fb ∧
      a'.payload = a.payload ++ ((if a.nextSeq then [] else leBytes a.p.sizeOfIOA ioa) ++ fb) ∧
      a'.bytes.length ≤ a.p.maxSize ∧ a'.count = a.count + 1 ∧ a'.count ≤ 127 ∧ a'.p = a.p ∧ Inv a' := by
  obtain ⟨fb, hfb, hp, hpay, hcount, hc127, _, _, _, _, hlen, hsize, hoct⟩ :=
    add_bytes a hi.hdr4 hi.len hi.oct e ioa vals a' h
  exact ⟨fb, hfb, hpay, hsize, hcount, by omega, hp,
    by rw [hp]; exact hi.legal, hp ▸ hlen, by omega, hoct⟩

deriving instance DecidableEq for TypeEntry

/-- no type id occurs twice in `typeTable` -/
theorem lookup_mem : ∀ e ∈ typeTable, lookup e.typeId = some e := by decide +kernel

end Iec.Asdu
