/-
The client's V(S) over every sequence of `CS104_Connection_sendASDU` calls: it advances by one (modulo 32768) exactly when
a call reports success, a refused call (not running, window full) changes nothing - so the N(S) of the next I-format APDU
is the number of ASDUs the connection accepted for sending since V(S) was 0, modulo 32768.  On a socket that accepts writes
the calls put exactly one I-format APDU per accepted call on the wire, with these N(S) (`ns_on_the_wireC`).
-/
import Iec.Lemmas.Cli104
namespace Iec.Cli104
open Iec.KWindow Iec.Srv104

theorem sendAsdu_vs (c : Cli) (a : List Nat) :
    ((sendAsdu c a).2 = true → (sendAsdu c a).1.vs = (c.vs + 1) % 32768 ∧ (sendAsdu c a).1.vr = c.vr) ∧
    ((sendAsdu c a).2 = false → (sendAsdu c a).1 = c) := by
  rcases sendAsdu_cases c a with e | ⟨_, e⟩ <;> rw [e]
  · exact ⟨fun h => Bool.noConfusion h, fun _ => rfl⟩
  · exact ⟨fun _ => ⟨rfl, rfl⟩, fun h => Bool.noConfusion h⟩

def sendAll (c : Cli) (as : List (List Nat)) : Cli := as.foldl (fun c a => (sendAsdu c a).1) c

def sentCount (c : Cli) : List (List Nat) → Nat
  | [] => 0
  | a :: as => (if (sendAsdu c a).2 then 1 else 0) + sentCount (sendAsdu c a).1 as

theorem vs_counts_sentC : ∀ (as : List (List Nat)) (c : Cli), c.vs < 32768 →
    (sendAll c as).vs = (c.vs + sentCount c as) % 32768
  | [], c, hv => (Nat.mod_eq_of_lt hv).symm
  | a :: as, c, hv => by
    show (sendAll (sendAsdu c a).1 as).vs = (c.vs + ((if (sendAsdu c a).2 then 1 else 0) + sentCount (sendAsdu c a).1 as)) % 32768
    rcases sendAsdu_cases c a with e | ⟨_, e⟩ <;> rw [e]
    · rw [vs_counts_sentC as c hv]; simp
    · rw [vs_counts_sentC as (sent c a) (Nat.mod_lt _ (by decide))]
      show ((c.vs + 1) % 32768 + sentCount (sent c a) as) % 32768 = (c.vs + (1 + sentCount (sent c a) as)) % 32768
      rw [Nat.mod_add_mod, Nat.add_assoc]

theorem iFrame_ns (c : Cli) (a : List Nat) (hv : c.vs < 32768) :
    frameNS (iFrame c a) = c.vs ∧ (iFrame c a).getD 2 0 % 2 = 0 := by
  obtain ⟨_, _, h1, h2, _⟩ := seqCodec c.vs hv
  unfold frameNS iFrame
  exact ⟨by simpa using h2, by simpa using h1⟩

theorem sent_wire (c : Cli) (a : List Nat) (hw : Writable c) :
    (sent c a).log = c.log ++ [.tx (iFrame c a)] ∧ Writable (sent c a) := by
  unfold sent
  rw [write_writable c hw]
  exact ⟨rfl, hw⟩

theorem ns_on_the_wireC : ∀ (as : List (List Nat)) (c : Cli), c.vs < 32768 → Writable c →
    ∃ fr : List (List Nat), (sendAll c as).log = c.log ++ fr.map Obs.tx ∧ fr.length = sentCount c as ∧
      ∀ j, j < fr.length → frameNS (fr.getD j []) = (c.vs + j) % 32768 ∧ (fr.getD j []).getD 2 0 % 2 = 0
  | [], c, _, _ => ⟨[], (List.append_nil _).symm, rfl, fun _ hj => absurd hj (Nat.not_lt_zero _)⟩
  | a :: as, c, hv, hw => by
    show ∃ fr : List (List Nat), (sendAll (sendAsdu c a).1 as).log = c.log ++ fr.map Obs.tx ∧
      fr.length = (if (sendAsdu c a).2 then 1 else 0) + sentCount (sendAsdu c a).1 as ∧ _
    rcases sendAsdu_cases c a with e | ⟨_, e⟩ <;> rw [e]
    · obtain ⟨fr, h1, h2, h3⟩ := ns_on_the_wireC as c hv hw
      exact ⟨fr, h1, by rw [h2]; simp, h3⟩
    · obtain ⟨hl, hw'⟩ := sent_wire c a hw
      obtain ⟨fr, h1, h2, h3⟩ := ns_on_the_wireC as (sent c a) (Nat.mod_lt _ (by decide)) hw'
      refine ⟨iFrame c a :: fr, by rw [h1, hl]; simp, by simp only [List.length_cons, if_true, h2]; omega, fun j hj => ?_⟩
      cases j with
      | zero => simpa [Nat.mod_eq_of_lt hv] using iFrame_ns c a hv
      | succ j =>
        have := h3 j (by simpa using hj)
        rw [List.getD_cons_succ]
        refine ⟨?_, this.2⟩
        rw [this.1]
        show ((c.vs + 1) % 32768 + j) % 32768 = (c.vs + (j + 1)) % 32768
        rw [Nat.mod_add_mod, Nat.add_assoc, Nat.add_comm 1 j]

end Iec.Cli104
