/-
The client's supervision deadlines after one pass of the connection loop (C11, client role): if the thread goes on, then
it is inside t3, no U-format act (STARTDT / STOPDT / TESTFR) has been unconfirmed for longer than t1, the oldest
unacknowledged I-format APDU is not t1 old, and received I-format APDUs have not been left unacknowledged for t2.  Each
conjunct comes from the stage of `handleTimeouts` that tests it; the clock fields are not in `Moves`, so the stages are
used by their equations.
-/
import Iec.Lemmas.Cli104
namespace Iec.Cli104
open Iec.KWindow Iec.Srv104

/-- In the shape of the C tests, `now > x && now - x ≥ t` being "x is t old": t3 (`nextT3` not passed); t1 for a U-format
act (`uTimeout`, 0 = none outstanding); t1 for the oldest unacknowledged I-format APDU; t2 for the first received I-format
APDU not yet acknowledged (`lastConf`). -/
def CDeadlines (c : Cli) : Prop :=
  c.now ≤ c.nextT3 ∧
  (c.uTimeout ≠ 0 → c.now ≤ c.uTimeout) ∧
  (∀ e rest, c.win = e :: rest → ¬ (c.now > e.sentTime ∧ c.now - e.sentTime ≥ c.p.t1 * 1000)) ∧
  (c.unconf > 0 → ∀ l, c.lastConf = some l → ¬ (c.now > l ∧ c.now - l ≥ c.p.t2 * 1000))

/-- what the T1 stage reads is what the T2 stage leaves alone -/
structure AckOnly (c c' : Cli) : Prop where
  now : c'.now = c.now
  p : c'.p = c.p
  nextT3 : c'.nextT3 = c.nextT3
  uTimeout : c'.uTimeout = c.uTimeout
  win : c'.win = c.win

theorem phaseT2_ackOnly (c : Cli) : AckOnly c (phaseT2 c) := by
  rcases phaseT2_cases c with ⟨e, _⟩ | ⟨e, _⟩ <;> rw [e]
  · exact ⟨rfl, rfl, rfl, rfl, rfl⟩
  · rw [confirm_eq]; exact ⟨rfl, rfl, rfl, rfl, rfl⟩

theorem phaseT3_inside (c : Cli) (h : (phaseT3 c).2 = true) : (phaseT3 c).1.now ≤ (phaseT3 c).1.nextT3 := by
  by_cases h3 : c.now ≤ c.nextT3
  · rw [phaseT3_idle c h3]; exact h3
  · by_cases ho : c.outstandingTestFR ≤ 2
    · rw [phaseT3_fire c (Nat.lt_of_not_le h3) ho]; exact Nat.le_add_right _ _
    · rw [phaseT3_giveUp c (Nat.lt_of_not_le h3) (Nat.lt_of_not_le ho)] at h; cases h

theorem phaseT1_closes_iff (c : Cli) : (phaseT1 c).2 = false ↔
    ((c.uTimeout ≠ 0 ∧ c.now > c.uTimeout) ∨
      ∃ e rest, c.win = e :: rest ∧ c.now > e.sentTime ∧ c.now - e.sentTime ≥ c.p.t1 * 1000) := by
  unfold phaseT1
  by_cases hu : c.uTimeout ≠ 0 ∧ c.now > c.uTimeout
  · rw [if_pos (by simpa using hu)]
    exact ⟨fun _ => Or.inl hu, fun _ => rfl⟩
  · rw [if_neg (by simpa using hu)]
    cases hw : c.win with
    | nil =>
      refine ⟨fun h => Bool.noConfusion h, ?_⟩
      rintro (h | ⟨_, _, he, _⟩)
      · exact absurd h hu
      · cases he
    | cons e rest =>
      dsimp only
      by_cases hc : c.now > e.sentTime ∧ c.now - e.sentTime ≥ c.p.t1 * 1000
      · rw [if_pos (by simpa using hc)]
        exact ⟨fun _ => Or.inr ⟨e, rest, rfl, hc⟩, fun _ => rfl⟩
      · rw [if_neg (by simpa using hc)]
        refine ⟨fun h => Bool.noConfusion h, ?_⟩
        rintro (h | ⟨e', r', he, h12⟩)
        · exact absurd h hu
        · cases he; exact absurd h12 hc

theorem handleTimeouts_deadlines (c : Cli) (h : (handleTimeouts c).2 = true) : CDeadlines (handleTimeouts c).1 := by
  unfold handleTimeouts at h ⊢
  dsimp only at h ⊢
  by_cases h3 : (phaseT3 c).2 = true
  · rw [if_neg (by rw [h3]; decide)] at h ⊢
    have a := phaseT2_ackOnly (phaseT3 c).1
    -- the T1 stage did not close
    have h1 : ¬ _ := fun x => Bool.noConfusion (h.symm.trans ((phaseT1_closes_iff _).mpr x))
    rw [phaseT1_fst]
    refine ⟨?_, fun hne => Nat.le_of_not_lt fun hgt => h1 (Or.inl ⟨hne, hgt⟩),
      fun e rest he hc => h1 (Or.inr ⟨e, rest, he, hc⟩), ?_⟩
    · rw [a.now, a.nextT3]; exact phaseT3_inside c h3
    · rcases phaseT2_cases (phaseT3 c).1 with ⟨e, hn⟩ | ⟨e, _⟩ <;> rw [e]
      · exact hn
      · rw [confirm_eq]; exact fun hu => absurd hu (Nat.lt_irrefl 0)
  · rw [if_pos (by rw [Bool.not_eq_true] at h3; rw [h3]; rfl)] at h
    exact absurd h h3

theorem loopIter_deadlines (c : Cli) (h3 : (loopIter c).phase = 3) : CDeadlines (loopIter c) := by
  rw [loopIter_eq] at h3 ⊢
  by_cases hr : (loopBody c).2 = true
  · rw [if_pos hr, loopBody_fst]
    rw [loopBody_snd, Bool.and_eq_true, Bool.and_eq_true] at hr
    exact handleTimeouts_deadlines _ hr.1.2
  · rw [if_neg hr] at h3
    obtain ⟨c1, _, e⟩ := finish_eq (loopBody c).1 "CLOSED"
    rw [e] at h3
    exact absurd h3 (by decide : ¬ (4 : Nat) = 3)

end Iec.Cli104
