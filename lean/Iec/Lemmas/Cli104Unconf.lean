/-
The client's count of received-but-unacknowledged I-format APDUs over every history of a connection object: whatever a
received message counted, the `w` test that follows it brings the count below w, and housekeeping never raises it - so at
every blocking point of the connection thread fewer than w are unacknowledged (C11, client role).
-/
import Iec.Lemmas.Cli104Win
namespace Iec.Cli104
open Iec.KWindow Iec.Srv104

theorem ackIfW_boundC (c : Cli) (hw : 0 < c.p.w) : (ackIfW c).p = c.p ∧ (ackIfW c).unconf < c.p.w := by
  unfold ackIfW
  split
  · rw [confirm_eq]; exact ⟨rfl, hw⟩
  · rename_i h
    rw [Bool.or_eq_true, decide_eq_true_eq, not_or, Nat.not_le] at h
    exact ⟨rfl, h.1⟩

def CUOk (p : Params) (c : Cli) : Prop := c.p = p ∧ c.unconf < p.w

theorem CUOk.calm {p : Params} {c c' : Cli} (h : CUOk p c) (hc : Calm c c') : CUOk p c' :=
  ⟨hc.moves.p.trans h.1, Nat.lt_of_le_of_lt hc.unconf h.2⟩

theorem cuok_thread {p : Params} (hw : 0 < p.w) : ThreadInv (CUOk p) where
  same hs h := ⟨hs.p.trans h.1, hs.unconf ▸ h.2⟩
  calm hc h := h.calm hc
  reset h := ⟨h.1, hw⟩
  body {c} h := by
    rw [loopBody_fst]
    refine CUOk.calm ?_ (calm_handleTimeouts _)
    rcases loopRecv_cases c with e | ⟨buf, sk, c2, hf, e⟩ <;> rw [e]
    · exact h
    · have hp : c2.p = p := hf.p.trans h.1
      obtain ⟨a, b⟩ := ackIfW_boundC c2 (hp ▸ hw)
      exact ⟨a.trans hp, hp ▸ b⟩

theorem run_cuok (p : Params) (hw : 0 < p.w) (ops : List KOp) : CUOk p (ops.foldl KOp.apply { p := p }) :=
  (cuok_thread hw).run (fun c a h => by
    rcases sendAsdu_cases c a with e | ⟨_, e⟩ <;> rw [e]
    · exact h
    · exact ⟨h.1, hw⟩) ops ⟨rfl, hw⟩

end Iec.Cli104
