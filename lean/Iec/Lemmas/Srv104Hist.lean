/-
Histories of the server: ticks, enqueues, restarts and what the environment does between two calls.  `tick_inv` carries
through a tick what every atom, the reaping step and the admission step keep; `run_inv` through a history.
-/
import Iec.Lemmas.Srv104Steps
namespace Iec.Srv104
open Iec.KWindow Iec.Queues

/-- what the environment does between two calls: data arrives on sockets, peers close, writes start or stop failing,
connections become pending, the clock advances - the connection records keep everything but their socket -/
structure WEnv where
  f : Slave → Slave
  p : ∀ s, (f s).p = s.p
  len : ∀ s, (f s).conns.length = s.conns.length
  conn : ∀ s j, (f s).conn j = { s.conn j with sock := ((f s).conn j).sock }
  groups : ∀ s, (f s).groups = s.groups
  log : ∀ s, (f s).log = s.log
  oc : ∀ s, (f s).openConnections = s.openConnections

theorem WEnv.grp (e : WEnv) (s : Slave) (g : Nat) : (e.f s).grp g = s.grp g := by unfold Slave.grp; rw [e.groups]

inductive WOp where
  | tick
  | enqueue (asdu : List Nat)
  | restart
  | env (e : WEnv)

def WOp.apply (s : Slave) : WOp → Slave
  | .tick => Iec.Srv104.tick s
  | .enqueue a => Iec.Srv104.enqueue s a
  | .restart => Iec.Srv104.restart s
  | .env e => e.f s

/-- the same environment events, under the name the histories without `restart` use -/
abbrev LEnv := WEnv

/-- `restart` is left out: it frees every slot without a CLOSED event, so the agreement of the event log with the state
of the slots (`LInv`, and `JInv` which contains it) does not survive it -/
inductive LOp where
  | tick
  | enqueue (asdu : List Nat)
  | env (e : LEnv)

def LOp.apply (s : Slave) : LOp → Slave
  | .tick => Iec.Srv104.tick s
  | .enqueue a => Iec.Srv104.enqueue s a
  | .env e => e.f s

theorem tick_inv {P : Slave → Prop} (hatom : ∀ i t u, (t.conn i).isUsed = true → P t → Atom .all i t u → P u)
    (hreap : ∀ t j, (t.conn j).isUsed = true → P t → P (reap t j))
    (hpend : ∀ t pd aa, P t → P { t with pending := pd, acceptAnswers := aa })
    (hopen : ∀ t i sk g, i < t.conns.length → (t.conn i).isUsed = false → P t → P (openSlot t i sk g))
    (s : Slave) (h : P s) : P (tick s) := by
  refine hcc_inv hatom hreap _ ?_
  obtain ⟨pd, aa, e | ⟨i, sk, g, hi, hu, e⟩⟩ := accept_cases s <;> rw [e]
  · exact hpend s pd aa h
  · exact hopen _ i sk g hi hu (hpend s pd aa h)

namespace PerConn
variable {C : Nat → Conn → Conn → Prop}

theorem reap (hr : ∀ j c, C j c c) (t : Slave) (j : Nat)
    (h : C j (t.conn j) { t.conn j with isUsed := false, state := 0 }) : PerConn C t (Srv104.reap t j) :=
  .of_setConn hr (reap_p t j) (reap_conns t j) h

theorem openSlot (hr : ∀ j c, C j c c) (t : Slave) (i : Nat) (sk : Sock) (g : Nat) (hi : i < t.conns.length)
    (h : C i (t.conn i) ((t.conn i).opened t.p t.now sk g)) : PerConn C t (Srv104.openSlot t i sk g) :=
  .of_setConn hr (openSlot_p t i sk g hi) (openSlot_conns t i sk g hi) h

theorem restart (hr : ∀ j c, C j c c) (s : Slave) (h : ∀ j c, C j c { c with isUsed := false, state := 0 }) :
    PerConn C s (Srv104.restart s) := by
  refine ⟨rfl, by simp [Srv104.restart], fun j => ?_⟩
  simp only [Srv104.restart, Slave.conn, List.getD_eq_getElem?_getD, List.getElem?_map]
  cases s.conns[j]? with
  | none => exact hr _ _
  | some c =>
    simp only [Option.map_some, Option.getD_some]
    split
    · exact h j c
    · exact hr _ _

theorem env (e : WEnv) (s : Slave) (h : ∀ j c sk, C j c { c with sock := sk }) : PerConn C s (e.f s) :=
  ⟨e.p s, e.len s, fun j => by rw [e.conn s j]; exact h j _ _⟩

theorem accept (hr : ∀ j c, C j c c) (s : Slave)
    (h : ∀ i c p now sk g, c.isUsed = false → C i c (c.opened p now sk g)) : PerConn C s (Srv104.accept s) := by
  obtain ⟨pd, aa, e | ⟨i, sk, g, hi, hu, e⟩⟩ := accept_cases s <;> rw [e]
  · exact .of_conns hr rfl rfl
  · exact .of_src (s' := { s with pending := pd, acceptAnswers := aa }) rfl rfl
      (.openSlot hr _ i sk g hi (h i _ _ _ sk g hu))

end PerConn

def LogAll (P : List Obs → Nat → List Nat → Prop) (log : List Obs) : Prop :=
  ∀ l1 c b l2, log = l1 ++ Obs.tx c b :: l2 → isI b → P l1 c b

namespace LogAll
variable {P : List Obs → Nat → List Nat → Prop} {log : List Obs}

theorem nil : LogAll P [] := fun l1 _ _ _ h => by cases l1 <;> simp at h

theorem append {l : List Obs} (h : LogAll P log)
    (hl : ∀ m1 c b m2, l = m1 ++ Obs.tx c b :: m2 → isI b → P (log ++ m1) c b) : LogAll P (log ++ l) := by
  intro l1 c b l2 hs hI
  rcases split_append log l l1 l2 (Obs.tx c b) hs with ⟨r, hr, _⟩ | ⟨m1, hm1, hm2⟩
  · exact h l1 c b r hr hI
  · rw [hm1]; exact hl m1 c b l2 hm2 hI

theorem snoc {o : Obs} (h : LogAll P log) (ho : ∀ c b, o = .tx c b → isI b → P log c b) : LogAll P (log ++ [o]) :=
  h.append fun m1 c b m2 e hI => by
    cases m1 with
    | nil => rw [List.append_nil]; exact ho c b (List.cons.inj e).1 hI
    | cons y ys => simp at e

theorem append_notI {l : List Obs} (h : LogAll P log) (hl : ∀ c b, Obs.tx c b ∈ l → ¬ isI b) : LogAll P (log ++ l) :=
  h.append fun m1 c b m2 e hI => absurd hI (hl c b (by rw [e]; simp))

end LogAll

theorem run_inv {P : Slave → Prop} {p : Params} {gs : List (String × List (Bool × List Nat))} (h0 : P (create p gs))
    (hop : ∀ s op, P s → P (WOp.apply s op)) (ops : List WOp) : P (ops.foldl WOp.apply (create p gs)) :=
  p_foldl _ hop ops _ h0

theorem run_inv_L {P : Slave → Prop} {p : Params} {gs : List (String × List (Bool × List Nat))} (h0 : P (create p gs))
    (hop : ∀ s op, P s → P (LOp.apply s op)) (ops : List LOp) : P (ops.foldl LOp.apply (create p gs)) :=
  p_foldl _ hop ops _ h0

theorem create_conn (p : Params) (gs : List (String × List (Bool × List Nat))) (j : Nat) : (create p gs).conn j = {} := by
  unfold create
  simp only [Slave.conn, List.getD_eq_getElem?_getD, List.getElem?_map]
  cases (List.range p.nSlots)[j]? <;> rfl

/-! environment events and parameters for the concrete histories of the property files -/

def lenvPending (sk : Sock) : WEnv where
  f s := { s with pending := s.pending ++ [sk] }
  p _ := rfl
  len _ := rfl
  conn _ _ := rfl
  groups _ := rfl
  log _ := rfl
  oc _ := rfl

def lenvFeed (i : Nat) (bytes : List Nat) : WEnv where
  f s := s.setConn i { s.conn i with sock := { (s.conn i).sock with chunks := (s.conn i).sock.chunks ++ [bytes] } }
  p _ := rfl
  len s := setConn_len _ _ _
  conn s j := by
    by_cases hj : j = i
    · subst hj
      by_cases hl : j < s.conns.length
      · rw [conn_setConn _ _ _ hl]
      · have hs : ∀ c, s.conns.set j c = s.conns := fun c => List.set_eq_of_length_le (Nat.le_of_not_lt hl)
        have : ∀ c, (s.setConn j c).conn j = s.conn j := by intro c; unfold Slave.conn Slave.setConn; simp only [hs]
        rw [this]
    · rw [conn_setConn_ne _ _ _ _ hj]
  groups _ := rfl
  log _ := rfl
  oc _ := rfl

def lifeDemoParams : Params := { k := 2, w := 1, t0 := 10, t1 := 15, t2 := 10, t3 := 20, mode := 0, maxOpen := 0, lowQ := 4, highQ := 4, asduHdr := 6, replies := 0, nSlots := 2 }

end Iec.Srv104
