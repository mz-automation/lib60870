/-
What the history proofs about the CS104 client model (`Iec.Cli104`) share.  The functions of the model are compositions of
record updates, `emit` and `write`.  `Moves P` bounds what such a composition does: the log grows by observations in `P`,
the window loses a prefix, parameters, k-buffer size, V(S), thread phase and socket stay.  `Reception` is `Moves` for what
`checkMessage` may log (no I-format APDU, no life-cycle event); `Calm` is the housekeeping part of it (acknowledgements,
U-format frames, timers): V(R) is kept, nothing is counted or handed over.  `ThreadInv` carries an invariant of the
connection's numbers through the thread.
-/
import Iec.Model.Cli104
import Iec.Lemmas.KWindow
import Iec.Lemmas.Srv104
namespace Iec.Cli104
open Iec.KWindow Iec.Srv104

def isLife (w : String) : Bool := w == "OPENED" || w == "CLOSED" || w == "FAILED"

def life (l : List Obs) : List String :=
  l.filterMap (fun o => match o with | .ev w => if isLife w then some w else none | _ => none)

@[simp] theorem life_append (a b : List Obs) : life (a ++ b) = life a ++ life b := by simp [life]

def isIFrame (b : List Nat) : Bool := b.getD 2 0 % 2 == 0

/-- The `% 2 = 0` is that of the wire theorems.  The model's `checkMessage` and `CAccepted` test `&&& 1 = 0`, the same
number (`Nat.and_one_is_mod`); `Srv104.isI` is not the same: it reads a missing octet as 1. -/
theorem isIFrame_iff (b : List Nat) : isIFrame b = true ↔ b.getD 2 0 % 2 = 0 := beq_iff_eq

def nsLog (l : List Obs) : List Nat :=
  l.filterMap (fun o => match o with | .tx b => if isIFrame b then some (frameNS b) else none | _ => none)

@[simp] theorem nsLog_append (a b : List Obs) : nsLog (a ++ b) = nsLog a ++ nsLog b := by simp [nsLog]

def asduLogC (log : List Obs) : List (List Nat) :=
  log.filterMap fun o => match o with
    | .asdu a => some a
    | _ => none

theorem asduLogC_append (a b : List Obs) : asduLogC (a ++ b) = asduLogC a ++ asduLogC b := by simp [asduLogC, List.filterMap_append]

def Obs.ctl : Obs → Bool
  | .tx b => !isIFrame b
  | _ => false

def Obs.minor : Obs → Bool
  | .tx b => !isIFrame b
  | .ev w => !isLife w
  | .asdu _ => true

theorem life_minor {l : List Obs} (h : l.all Obs.minor = true) : life l = [] :=
  List.filterMap_eq_nil_iff.mpr fun o ho => by
    have hm := List.all_eq_true.mp h o ho
    cases o with
    | ev w => exact if_neg fun hl => by rw [Obs.minor, hl] at hm; cases hm
    | _ => rfl

theorem nsLog_minor {l : List Obs} (h : l.all Obs.minor = true) : nsLog l = [] :=
  List.filterMap_eq_nil_iff.mpr fun o ho => by
    have hm := List.all_eq_true.mp h o ho
    cases o with
    | tx b => exact if_neg fun hi => by rw [Obs.minor, hi] at hm; cases hm
    | _ => rfl

theorem asduLogC_ctl {l : List Obs} (h : l.all Obs.ctl = true) : asduLogC l = [] :=
  List.filterMap_eq_nil_iff.mpr fun o ho => by
    have hm := List.all_eq_true.mp h o ho
    cases o with
    | asdu a => cases hm
    | _ => rfl

def Writable (c : Cli) : Prop := (c.phase = 2 ∨ c.phase = 3) ∧ c.sock.writeFail = false ∧ c.sock.peerClosed = false

theorem write_writable (c : Cli) (h : Writable c) (b : List Nat) : write c b = emit c (.tx b) := by
  obtain ⟨hp, h1, h2⟩ := h
  unfold write
  rw [if_neg (by rcases hp with hp | hp <;> rw [hp] <;> decide), h1, h2]
  rfl

theorem write_cases (c : Cli) (b : List Nat) : write c b = c ∨ write c b = emit c (.tx b) := by
  unfold write
  split
  · exact Or.inl rfl
  · split
    · exact Or.inl rfl
    · exact Or.inr rfl

/-- after `rw [write_eq]` every field of `write c b` but the log is that of `c` by `rfl` -/
theorem write_eq (c : Cli) (b : List Nat) : write c b = { c with log := (write c b).log } := by
  rcases write_cases c b with e | e <;> rw [e] <;> rfl

structure Moves (P : Obs → Bool) (c c' : Cli) : Prop where
  p : c'.p = c.p
  maxSent : c'.maxSent = c.maxSent
  vs : c'.vs = c.vs
  phase : c'.phase = c.phase
  sock : c'.sock = c.sock
  win : ∃ d, d ≤ c.win.length ∧ c'.win = c.win.drop d
  log : ∃ l, c'.log = c.log ++ l ∧ l.all P = true

abbrev Reception := Moves Obs.minor

structure Calm (c c' : Cli) : Prop where
  moves : Moves Obs.ctl c c'
  vr : c'.vr = c.vr
  unconf : c'.unconf ≤ c.unconf

/-- For `c'` written as `{ c with … }`: the default `by rfl` closes each field the update leaves alone; a caller passes
proofs only for fields the update rewrites to an equal value. -/
theorem Moves.same {P : Obs → Bool} {c c' : Cli} (p : c'.p = c.p := by rfl) (maxSent : c'.maxSent = c.maxSent := by rfl)
    (vs : c'.vs = c.vs := by rfl) (phase : c'.phase = c.phase := by rfl) (sock : c'.sock = c.sock := by rfl)
    (win : c'.win = c.win := by rfl) (log : c'.log = c.log := by rfl) : Moves P c c' :=
  ⟨p, maxSent, vs, phase, sock, ⟨0, Nat.zero_le _, win⟩, ⟨[], by rw [log, List.append_nil], rfl⟩⟩

theorem Moves.refl {P : Obs → Bool} (c : Cli) : Moves P c c := Moves.same

theorem Moves.trans {P : Obs → Bool} {a b c : Cli} (h1 : Moves P a b) (h2 : Moves P b c) : Moves P a c := by
  obtain ⟨d1, hd1, e1⟩ := h1.win
  obtain ⟨d2, hd2, e2⟩ := h2.win
  obtain ⟨l1, g1, a1⟩ := h1.log
  obtain ⟨l2, g2, a2⟩ := h2.log
  refine ⟨h2.p.trans h1.p, h2.maxSent.trans h1.maxSent, h2.vs.trans h1.vs, h2.phase.trans h1.phase,
    h2.sock.trans h1.sock, ⟨d1 + d2, ?_, by rw [e2, e1, List.drop_drop]⟩,
    ⟨l1 ++ l2, by rw [g2, g1, List.append_assoc], by rw [List.all_append, a1, a2]; rfl⟩⟩
  rw [e1, List.length_drop] at hd2; omega

theorem Moves.mono {P Q : Obs → Bool} {c c' : Cli} (hpq : ∀ o, P o = true → Q o = true) (h : Moves P c c') : Moves Q c c' := by
  obtain ⟨l, g, a⟩ := h.log
  exact ⟨h.p, h.maxSent, h.vs, h.phase, h.sock, h.win, ⟨l, g, List.all_eq_true.mpr fun o ho => hpq o (List.all_eq_true.mp a o ho)⟩⟩

theorem moves_emit {P : Obs → Bool} (c : Cli) (o : Obs) (h : P o = true) : Moves P c (emit c o) :=
  ⟨rfl, rfl, rfl, rfl, rfl, ⟨0, Nat.zero_le _, rfl⟩, ⟨[o], rfl, by rw [List.all_cons, h]; rfl⟩⟩

theorem moves_write {P : Obs → Bool} (c : Cli) (b : List Nat) (h : P (.tx b) = true) : Moves P c (write c b) := by
  rcases write_cases c b with e | e <;> rw [e]
  · exact .refl c
  · exact moves_emit c _ h

theorem Calm.same {c c' : Cli} (unconf : c'.unconf ≤ c.unconf) (p : c'.p = c.p := by rfl)
    (maxSent : c'.maxSent = c.maxSent := by rfl) (vs : c'.vs = c.vs := by rfl) (phase : c'.phase = c.phase := by rfl)
    (sock : c'.sock = c.sock := by rfl) (win : c'.win = c.win := by rfl) (log : c'.log = c.log := by rfl)
    (vr : c'.vr = c.vr := by rfl) : Calm c c' :=
  ⟨Moves.same p maxSent vs phase sock win log, vr, unconf⟩

theorem Calm.refl (c : Cli) : Calm c c := Calm.same (Nat.le_refl _)

theorem Calm.trans {a b c : Cli} (h1 : Calm a b) (h2 : Calm b c) : Calm a c :=
  ⟨h1.moves.trans h2.moves, h2.vr.trans h1.vr, Nat.le_trans h2.unconf h1.unconf⟩

theorem Calm.reception {c c' : Cli} (h : Calm c c') : Reception c c' :=
  h.moves.mono fun o ho => by
    cases o with
    | tx _ => exact ho
    | _ => cases ho

theorem Calm.asduLog {c c' : Cli} (h : Calm c c') : asduLogC c'.log = asduLogC c.log := by
  obtain ⟨l, g, a⟩ := h.moves.log
  rw [g, asduLogC_append, asduLogC_ctl a, List.append_nil]

theorem calm_write (c : Cli) (b : List Nat) (h : isIFrame b = false) : Calm c (write c b) := by
  refine ⟨moves_write c b (by show (!isIFrame b) = true; rw [h]; rfl), ?_, ?_⟩ <;> rw [write_eq] <;> exact Nat.le_refl _

theorem confirm_eq (c : Cli) : confirmOutstanding c =
    { c with lastConf := some c.now, unconf := 0, t2Trigger := false, log := (confirmOutstanding c).log } := by
  unfold confirmOutstanding
  rw [write_eq]

theorem calm_confirm (c : Cli) : Calm c (confirmOutstanding c) := by
  refine .trans ?_ (calm_write _ _ rfl)
  exact .same (Nat.zero_le _)

theorem confirm_writable (c : Cli) (h : Writable c) : confirmOutstanding c =
    emit { c with lastConf := some c.now, unconf := 0, t2Trigger := false } (.tx [0x68, 4, 1, 0, seqLo c.vr, seqHi c.vr]) :=
  write_writable { c with lastConf := some c.now, unconf := 0, t2Trigger := false } h _

theorem phaseT3_idle (c : Cli) (h : c.now ≤ c.nextT3) : phaseT3 c = (c, true) := by
  unfold phaseT3
  rw [if_neg (Nat.not_lt.mpr h)]

theorem phaseT3_giveUp (c : Cli) (h : c.nextT3 < c.now) (ho : 2 < c.outstandingTestFR) : phaseT3 c = (c, false) := by
  unfold phaseT3
  rw [if_pos h, if_pos ho]

/-- the state after the T3 stage has written TESTFR act; of the write only the log matters (`write_eq`) -/
def testFrSent (c : Cli) : Cli :=
  { c with log := (write c TESTFR_ACT).log, uTimeout := c.now + c.p.t1 * 1000,
           outstandingTestFR := c.outstandingTestFR + 1, nextT3 := c.now + c.p.t3 * 1000 }

theorem phaseT3_fire (c : Cli) (h : c.nextT3 < c.now) (ho : c.outstandingTestFR ≤ 2) : phaseT3 c = (testFrSent c, true) := by
  unfold phaseT3
  rw [if_pos h, if_neg (Nat.not_lt.mpr ho)]
  dsimp only
  rw [write_eq]
  rfl

theorem calm_phaseT3 (c : Cli) : Calm c (phaseT3 c).1 := by
  by_cases h : c.now ≤ c.nextT3
  · rw [phaseT3_idle c h]; exact .refl c
  · by_cases ho : c.outstandingTestFR ≤ 2
    · rw [phaseT3_fire c (Nat.lt_of_not_le h) ho]
      exact ⟨⟨rfl, rfl, rfl, rfl, rfl, ⟨0, Nat.zero_le _, rfl⟩, (calm_write c TESTFR_ACT rfl).moves.log⟩, rfl, Nat.le_refl _⟩
    · rw [phaseT3_giveUp c (Nat.lt_of_not_le h) (Nat.lt_of_not_le ho)]; exact .refl c

theorem phaseT2_cases (c : Cli) :
    (phaseT2 c = c ∧ (c.unconf > 0 → ∀ l, c.lastConf = some l → ¬ (c.now > l ∧ c.now - l ≥ c.p.t2 * 1000))) ∨
    (phaseT2 c = confirmOutstanding c ∧ c.unconf > 0 ∧ ∃ l, c.lastConf = some l ∧ c.now > l ∧ c.now - l ≥ c.p.t2 * 1000) := by
  unfold phaseT2
  split
  · rename_i hu
    split
    · rename_i l hl
      split
      · rename_i hd
        rw [Bool.and_eq_true, decide_eq_true_eq, decide_eq_true_eq] at hd
        exact Or.inr ⟨rfl, hu, l, hl, hd⟩
      · rename_i hd
        rw [Bool.and_eq_true, decide_eq_true_eq, decide_eq_true_eq] at hd
        exact Or.inl ⟨rfl, fun _ l' hl' => by rw [hl] at hl'; cases hl'; exact hd⟩
    · rename_i hn
      exact Or.inl ⟨rfl, fun _ l hl => by rw [hn] at hl; cases hl⟩
  · rename_i hu
    exact Or.inl ⟨rfl, fun h => absurd h hu⟩

theorem calm_phaseT2 (c : Cli) : Calm c (phaseT2 c) := by
  rcases phaseT2_cases c with ⟨e, _⟩ | ⟨e, _⟩ <;> rw [e]
  · exact Calm.refl c
  · exact calm_confirm c

theorem phaseT1_fst (c : Cli) : (phaseT1 c).1 = c := by
  unfold phaseT1
  split
  · rfl
  · split
    · rfl
    · split <;> rfl

theorem handleTimeouts_idle (c : Cli) (h : c.now ≤ c.nextT3) : handleTimeouts c = phaseT1 (phaseT2 c) := by
  unfold handleTimeouts
  rw [phaseT3_idle c h]
  rfl

theorem calm_handleTimeouts (c : Cli) : Calm c (handleTimeouts c).1 := by
  unfold handleTimeouts
  dsimp only
  split
  · exact calm_phaseT3 c
  · rw [phaseT1_fst]; exact (calm_phaseT3 c).trans (calm_phaseT2 _)

theorem calm_ackIfW (c : Cli) : Calm c (ackIfW c) := by
  unfold ackIfW
  split
  · exact calm_confirm c
  · exact Calm.refl c

theorem calm_sendStartDT (c : Cli) : Calm c (sendStartDT c) := by
  refine .trans ?_ (calm_write _ STARTDT_ACT rfl)
  exact .same (Nat.le_refl _)

theorem calm_sendStopDT (c : Cli) : Calm c (sendStopDT c) := by
  refine .trans (calm_confirm c) (.trans ?_ (calm_write _ STOPDT_ACT rfl))
  exact .same (Nat.le_refl _)

theorem finish_eq (c : Cli) (ev : String) : ∃ c1, Calm c c1 ∧
    finish c ev = emit { c1 with conState := 0, running := false, phase := 4 } (.ev ev) := by
  refine ⟨if c.unconf > 0 then confirmOutstanding c else c, ?_, rfl⟩
  split
  · exact calm_confirm c
  · exact Calm.refl c

def markT2 (c : Cli) : Cli := if !c.t2Trigger then { c with t2Trigger := true, lastConf := some c.now } else c
def touchT3 (c : Cli) : Cli := { c with nextT3 := c.now + c.p.t3 * 1000 }
def released (c : Cli) (nr : Nat) : Cli := { c with win := (checkSeq c.vs c.win nr).2.1 }

def counted (c : Cli) (buf : List Nat) : Cli :=
  { released c (frameNR buf) with vr := (c.vr + 1) % 32768, unconf := c.unconf + 1 }

def recvI (c : Cli) (buf : List Nat) : Cli × Bool :=
  if buf.length < 7 then (c, false)
  else if frameNS buf != c.vr then (c, false)
  else if !(checkSeq c.vs c.win (frameNR buf)).1 then (released c (frameNR buf), false)
  else if buf.length - 6 < c.p.asduHdr then (counted c buf, false)
  else (touchT3 (emit (counted c buf) (.asdu (buf.drop 6))), true)

def recvU (c : Cli) (b2 : Nat) : Cli :=
  if b2 == 0x43 then write c TESTFR_CON
  else if b2 == 0x83 then { c with outstandingTestFR := 0 }
  else if b2 == 0x07 then { (write c STARTDT_CON) with conState := 2 }
  else if b2 == 0x0b then { c with conState := 2 }
  else if b2 == 0x23 then { c with conState := 1 }
  else c

def recvS (c : Cli) (nr : Nat) : Cli × Bool :=
  if !(checkSeq c.vs c.win nr).1 then (released c nr, false) else (touchT3 (released c nr), true)

/-- The model's `checkMessage` in the parts above (`markT2` … `recvS`).  It holds by unfolding alone (the model takes the
result of `checkSeq` apart by a pattern, the parts by projections), so it breaks, here and nowhere else, when the model's
text changes. -/
theorem checkMessage_eq (c : Cli) (buf : List Nat) : checkMessage c buf =
    if buf.length < 6 then (c, false)
    else if buf.getD 2 0 &&& 1 == 0 then recvI (markT2 c) buf
    else if buf.getD 2 0 &&& 0x03 == 0x03 then (touchT3 (recvU { c with uTimeout := 0 } (buf.getD 2 0)), true)
    else if buf.getD 2 0 == 0x01 then recvS c ((buf.getD 4 0 + buf.getD 5 0 * 0x100) / 2)
    else (touchT3 c, true) := rfl

theorem checkSeq_fst (vs : Nat) (win : List KEntry) (nr : Nat) : (checkSeq vs win nr).1 = valid vs win nr := by
  unfold checkSeq
  cases valid vs win nr <;> rfl

theorem calm_released (c : Cli) (nr : Nat) : Calm c (released c nr) :=
  ⟨⟨rfl, rfl, rfl, rfl, rfl, checkSeq_suffix _ _ _, ⟨[], (List.append_nil _).symm, rfl⟩⟩, rfl, Nat.le_refl _⟩

/-- used like `write_eq` -/
theorem markT2_eq (c : Cli) :
    markT2 c = { c with t2Trigger := (markT2 c).t2Trigger, lastConf := (markT2 c).lastConf } := by
  unfold markT2; split <;> rfl

theorem markT2_log (c : Cli) : (markT2 c).log = c.log := by rw [markT2_eq]
theorem markT2_vr (c : Cli) : (markT2 c).vr = c.vr := by rw [markT2_eq]

theorem calm_markT2 (c : Cli) : Calm c (markT2 c) := by
  rw [markT2_eq]; exact .same (Nat.le_refl _)

theorem calm_touchT3 (c : Cli) : Calm c (touchT3 c) := .same (Nat.le_refl _)

theorem calm_recvU (c : Cli) (b2 : Nat) : Calm c (recvU c b2) := by
  unfold recvU
  by_cases h43 : (b2 == 0x43) = true
  · rw [if_pos h43]; exact calm_write c _ rfl
  rw [if_neg h43]
  by_cases h83 : (b2 == 0x83) = true
  · rw [if_pos h83]; exact .same (Nat.le_refl _)
  rw [if_neg h83]
  by_cases h07 : (b2 == 0x07) = true
  · rw [if_pos h07]; exact (calm_write c _ rfl).trans (.same (Nat.le_refl _))
  rw [if_neg h07]
  by_cases h0b : (b2 == 0x0b) = true
  · rw [if_pos h0b]; exact .same (Nat.le_refl _)
  rw [if_neg h0b]
  by_cases h23 : (b2 == 0x23) = true
  · rw [if_pos h23]; exact .same (Nat.le_refl _)
  rw [if_neg h23]
  exact .refl c

theorem calm_recvS (c : Cli) (nr : Nat) : Calm c (recvS c nr).1 := by
  unfold recvS
  split
  · exact calm_released c nr
  · exact (calm_released c nr).trans (calm_touchT3 _)

theorem recvI_reject (c : Cli) (buf : List Nat)
    (h : ¬ (7 ≤ buf.length ∧ frameNS buf = c.vr ∧ valid c.vs c.win (frameNR buf) = true)) : recvI c buf = (c, false) := by
  unfold recvI
  by_cases h7 : buf.length < 7
  · rw [if_pos h7]
  rw [if_neg h7]
  by_cases hns : (frameNS buf != c.vr) = true
  · rw [if_pos hns]
  rw [if_neg hns]
  have hv : ¬ valid c.vs c.win (frameNR buf) = true := fun hv => h ⟨Nat.le_of_not_lt h7, by simpa using hns, hv⟩
  have e : checkSeq c.vs c.win (frameNR buf) = (false, c.win, []) := by unfold checkSeq; rw [if_neg hv]
  unfold released
  rw [e]; rfl

theorem recvI_accept (c : Cli) (buf : List Nat) (h7 : 7 ≤ buf.length) (hns : frameNS buf = c.vr)
    (hv : valid c.vs c.win (frameNR buf) = true) :
    recvI c buf = if buf.length - 6 < c.p.asduHdr then (counted c buf, false)
      else (touchT3 (emit (counted c buf) (.asdu (buf.drop 6))), true) := by
  unfold recvI
  rw [if_neg (Nat.not_lt.mpr h7), if_neg (by rw [hns]; simp), if_neg (by rw [checkSeq_fst, hv]; decide)]

theorem reception_recvI (c : Cli) (buf : List Nat) : Reception c (recvI c buf).1 := by
  by_cases h : 7 ≤ buf.length ∧ frameNS buf = c.vr ∧ valid c.vs c.win (frameNR buf) = true
  · rw [recvI_accept c buf h.1 h.2.1 h.2.2]
    have h2 : Reception c (counted c buf) := (calm_released c (frameNR buf)).reception.trans .same
    split
    · exact h2
    · exact h2.trans ((moves_emit _ _ rfl).trans (calm_touchT3 _).reception)
  · rw [recvI_reject c buf h]; exact .refl c

theorem checkMessage_I (c : Cli) (buf : List Nat) (h6 : 6 ≤ buf.length) (hI : buf.getD 2 0 &&& 1 = 0) :
    checkMessage c buf = recvI (markT2 c) buf := by
  rw [checkMessage_eq, if_neg (Nat.not_lt.mpr h6), if_pos (by rw [hI]; rfl)]

theorem calm_checkMessage_other (c : Cli) (buf : List Nat) (h : ¬ (6 ≤ buf.length ∧ buf.getD 2 0 &&& 1 = 0)) :
    Calm c (checkMessage c buf).1 := by
  rw [checkMessage_eq]
  by_cases h6 : buf.length < 6
  · rw [if_pos h6]; exact .refl c
  rw [if_neg h6, if_neg (fun hI => h ⟨Nat.le_of_not_lt h6, by simpa using hI⟩)]
  by_cases hU : (buf.getD 2 0 &&& 0x03 == 0x03) = true
  · rw [if_pos hU]
    refine .trans (.trans ?_ (calm_recvU _ _)) (calm_touchT3 _)
    exact .same (Nat.le_refl _)
  rw [if_neg hU]
  by_cases hS : (buf.getD 2 0 == 0x01) = true
  · rw [if_pos hS]; exact calm_recvS c _
  · rw [if_neg hS]; exact calm_touchT3 c

theorem reception_checkMessage (c : Cli) (buf : List Nat) : Reception c (checkMessage c buf).1 := by
  by_cases h : 6 ≤ buf.length ∧ buf.getD 2 0 &&& 1 = 0
  · rw [checkMessage_I c buf h.1 h.2]; exact (calm_markT2 c).reception.trans (reception_recvI _ _)
  · exact (calm_checkMessage_other c buf h).reception

/-- the notification part of `onMessage` -/
def notify (old : Nat) (c : Cli) : Cli :=
  if c.conState != old then
    (if c.conState == 2 then emit c (.ev "STARTDT_CON") else if c.conState == 1 then emit c (.ev "STOPDT_CON") else c)
  else c

theorem reception_notify (old : Nat) (c : Cli) : Reception c (notify old c) := by
  unfold notify
  by_cases hc : (c.conState != old) = true
  · rw [if_pos hc]
    by_cases h2 : (c.conState == 2) = true
    · rw [if_pos h2]; exact moves_emit _ _ rfl
    rw [if_neg h2]
    by_cases h1 : (c.conState == 1) = true
    · rw [if_pos h1]; exact moves_emit _ _ rfl
    · rw [if_neg h1]; exact .refl c
  · rw [if_neg hc]; exact .refl c

theorem reception_onMessage (c : Cli) (msg : List Nat) (lr : Bool) : Reception c (onMessage c msg lr).1 := by
  unfold onMessage
  have hq := reception_checkMessage c msg
  generalize checkMessage c msg = r at hq
  obtain ⟨c1, ok⟩ := r
  cases ok
  · exact hq.trans (Moves.trans (b := { c1 with failure := true }) .same (reception_notify c.conState _))
  · exact hq.trans (reception_notify c.conState _)

/-- `loopRecv` is not a `Moves`: it replaces `recvBuf` and `sock` by what `recvStep` returns.  What follows that update is
a `Reception`, then the `w` test. -/
theorem loopRecv_cases (c : Cli) : (loopRecv c).1 = c ∨
    ∃ buf sk c2, Reception { c with recvBuf := buf, sock := sk } c2 ∧ (loopRecv c).1 = ackIfW c2 := by
  unfold loopRecv
  by_cases hr : c.sock.readable = true
  · rw [if_pos hr]
    right
    generalize recvStep c.recvBuf c.sock = r
    obtain ⟨buf, sk, rr, msg⟩ := r
    refine ⟨buf, sk, ?_⟩
    dsimp only
    by_cases h1 : rr = -1 <;> by_cases h2 : rr > 0
    · omega
    · rw [if_neg h2, if_pos h1]; exact ⟨_, .same, rfl⟩
    · rw [if_pos h2, if_neg h1]; exact ⟨_, reception_onMessage _ msg _, rfl⟩
    · rw [if_neg h2, if_neg h1]; exact ⟨_, .refl _, rfl⟩
  · rw [if_neg hr]; exact Or.inl rfl

/-- In the three equations below the inner result is made a variable first: `rfl` alone unfolds `loopRecv`. -/
theorem loopBody_fst (c : Cli) : (loopBody c).1 = (handleTimeouts (loopRecv c).1).1 := by
  unfold loopBody
  generalize loopRecv c = r
  rfl

theorem loopBody_snd (c : Cli) : (loopBody c).2 =
    (((loopRecv c).2 && (handleTimeouts (loopRecv c).1).2) && !(handleTimeouts (loopRecv c).1).1.close) := by
  unfold loopBody
  generalize loopRecv c = r
  rfl

theorem loopIter_eq (c : Cli) :
    loopIter c = if (loopBody c).2 = true then (loopBody c).1 else finish (loopBody c).1 "CLOSED" := by
  unfold loopIter
  generalize loopBody c = r
  rfl

theorem reception_loopBody (c : Cli) : ∃ buf sk, Reception { c with recvBuf := buf, sock := sk } (loopBody c).1 := by
  rw [loopBody_fst]
  rcases loopRecv_cases c with e | ⟨buf, sk, c2, h, e⟩ <;> rw [e]
  · exact ⟨c.recvBuf, c.sock, (calm_handleTimeouts c).reception⟩
  · exact ⟨buf, sk, h.trans ((calm_ackIfW c2).trans (calm_handleTimeouts _)).reception⟩

/-- `{}` proves it when `c'` is `{ c with … }` over other fields (flags, clock, socket, log) -/
structure SameNumbers (c c' : Cli) : Prop where
  p : c'.p = c.p := by rfl
  maxSent : c'.maxSent = c.maxSent := by rfl
  vs : c'.vs = c.vs := by rfl
  win : c'.win = c.win := by rfl
  unconf : c'.unconf = c.unconf := by rfl

/-- what an invariant has to satisfy to survive the connection thread (`ThreadInv.step`, `ThreadInv.closeConn`) -/
structure ThreadInv (I : Cli → Prop) : Prop where
  same : ∀ {c c'}, SameNumbers c c' → I c → I c'
  calm : ∀ {c c'}, Calm c c' → I c → I c'
  reset : ∀ {c}, I c → I (resetConnection c)
  body : ∀ {c}, I c → I (loopBody c).1

theorem ThreadInv.finish {I : Cli → Prop} (hI : ThreadInv I) {c : Cli} (h : I c) (ev : String) : I (finish c ev) := by
  obtain ⟨c1, h1, e⟩ := finish_eq c ev
  rw [e]; exact hI.same {} (hI.calm h1 h)

theorem ThreadInv.step {I : Cli → Prop} (hI : ThreadInv I) {c : Cli} (h : I c) : I (step c) := by
  unfold Iec.Cli104.step
  by_cases h1 : c.phase = 1
  · rw [if_pos h1]; exact hI.same {} (hI.reset h)
  rw [if_neg h1]
  by_cases h2 : c.phase = 2
  · rw [if_pos h2]
    by_cases hc : c.connectOk = true
    · rw [if_pos hc]; exact hI.same {} h
    · rw [if_neg hc]; exact hI.finish (hI.same (c' := { c with failure := true }) {} h) _
  rw [if_neg h2]
  by_cases h3 : c.phase = 3
  · rw [if_pos h3, loopIter_eq]
    by_cases hl : (loopBody c).2 = true
    · rw [if_pos hl]; exact hI.body h
    · rw [if_neg hl]; exact hI.finish (hI.body h) _
  · rw [if_neg h3]; exact h

theorem ThreadInv.runToEnd {I : Cli → Prop} (hI : ThreadInv I) : ∀ (f : Nat) (c : Cli), I c → I (runToEnd f c)
  | 0, _, h => h
  | f + 1, c, h => by
    unfold Iec.Cli104.runToEnd
    split
    · exact h
    · exact hI.runToEnd f _ (hI.step h)

theorem ThreadInv.closeConn {I : Cli → Prop} (hI : ThreadInv I) {c : Cli} (h : I c) : I (closeConn c) :=
  hI.same {} (hI.runToEnd 100 _ (hI.same (c' := { c with close := true }) {} h))

def Cli.k (c : Cli) : Nat := c.maxSent.getD c.p.k

def iFrame (c : Cli) (a : List Nat) : List Nat :=
  [0x68, (a.length + 4) % 256, seqLo c.vs, seqHi c.vs, seqLo c.vr, seqHi c.vr] ++ a

/-- the state after an accepted `sendAsdu`; of the write only the log matters (`write_eq`) -/
def sent (c : Cli) (a : List Nat) : Cli :=
  { c with
    log := (write c (iFrame c a)).log, vs := (c.vs + 1) % 32768, unconf := 0, t2Trigger := false,
    win := c.win ++ [{ seq := (c.vs + 1) % 32768, sentTime := c.now, qref := none }] }

theorem sendAsdu_eq (c : Cli) (a : List Nat) :
    sendAsdu c a = if c.running = true ∧ isFull c.k c.win = false then (sent c a, true) else (c, false) := by
  unfold sendAsdu
  by_cases hr : c.running = true
  · rw [if_pos hr]
    by_cases hf : isFull c.k c.win = false
    · rw [if_pos (by show (!isFull c.k c.win) = true; rw [hf]; rfl), if_pos ⟨hr, hf⟩]
      dsimp only
      rw [write_eq]
      rfl
    · rw [if_neg (by show ¬ (!isFull c.k c.win) = true; rw [eq_true_of_ne_false hf]; decide), if_neg fun h => hf h.2]
  · rw [if_neg hr, if_neg fun h => hr h.1]

theorem sendAsdu_cases (c : Cli) (a : List Nat) :
    sendAsdu c a = (c, false) ∨ (isFull c.k c.win = false ∧ sendAsdu c a = (sent c a, true)) := by
  rw [sendAsdu_eq]
  split
  · rename_i h
    exact Or.inr ⟨h.2, rfl⟩
  · exact Or.inl rfl

end Iec.Cli104
