/-
Life-cycle events of the CS104 client model (`Iec.Cli104`): what a connection attempt reports is, in order, OPENED then
CLOSED, or FAILED alone; the last of these is there exactly when the thread has finished, and nothing follows it.
-/
import Iec.Lemmas.Cli104
namespace Iec.Cli104
open Iec.KWindow Iec.Srv104

@[simp] theorem life_nil : life [] = [] := rfl
@[simp] theorem emit_phase (c : Cli) (o : Obs) : (emit c o).phase = c.phase := rfl

def Quiet (c c' : Cli) : Prop := c'.phase = c.phase ∧ life c'.log = life c.log

theorem Quiet.refl (c : Cli) : Quiet c c := ⟨rfl, rfl⟩
theorem Quiet.trans {a b c : Cli} (h1 : Quiet a b) (h2 : Quiet b c) : Quiet a c :=
  ⟨h2.1.trans h1.1, h2.2.trans h1.2⟩

theorem Moves.quiet {c c' : Cli} (h : Reception c c') : Quiet c c' := by
  obtain ⟨l, g, a⟩ := h.log
  exact ⟨h.phase, by rw [g, life_append, life_minor a, List.append_nil]⟩

theorem quiet_emit_tx (c : Cli) (b : List Nat) : Quiet c (emit c (.tx b)) :=
  ⟨rfl, (life_append c.log [.tx b]).trans (List.append_nil _)⟩
theorem quiet_emit_asdu (c : Cli) (b : List Nat) : Quiet c (emit c (.asdu b)) :=
  ⟨rfl, (life_append c.log [.asdu b]).trans (List.append_nil _)⟩

theorem quiet_write (c : Cli) (b : List Nat) : Quiet c (write c b) := by
  rcases write_cases c b with e | e <;> rw [e]
  · exact Quiet.refl c
  · exact quiet_emit_tx c b

@[simp] theorem emit_tx_life (c : Cli) (b : List Nat) : life (emit c (.tx b)).log = life c.log := (quiet_emit_tx c b).2

theorem quiet_sendAsdu (c : Cli) (a : List Nat) : Quiet c (sendAsdu c a).1 := by
  rcases sendAsdu_cases c a with e | ⟨_, e⟩ <;> rw [e]
  · exact Quiet.refl c
  · exact ⟨rfl, (quiet_write c _).2⟩

theorem life_ev (w : String) : life [Obs.ev w] = if isLife w then [w] else [] := by
  simp only [life, List.filterMap_cons, List.filterMap_nil]
  cases isLife w <;> rfl

theorem finish_spec (c : Cli) (ev : String) :
    (finish c ev).phase = 4 ∧ life (finish c ev).log = life c.log ++ (if isLife ev then [ev] else []) := by
  obtain ⟨c1, h, e⟩ := finish_eq c ev
  rw [e]
  refine ⟨rfl, ?_⟩
  show life (c1.log ++ [Obs.ev ev]) = _
  rw [life_append, life_ev, h.reception.quiet.2]

theorem loopIter_spec (c : Cli) :
    Quiet c (loopIter c) ∨ ((loopIter c).phase = 4 ∧ life (loopIter c).log = life c.log ++ ["CLOSED"]) := by
  obtain ⟨buf, sk, h⟩ := reception_loopBody c
  have hq : Quiet c (loopBody c).1 := Quiet.trans ⟨rfl, rfl⟩ h.quiet
  rw [loopIter_eq]
  split
  · exact Or.inl hq
  · obtain ⟨f1, f2⟩ := finish_spec (loopBody c).1 "CLOSED"
    exact Or.inr ⟨f1, by rw [f2, hq.2]; rfl⟩

theorem step_spec (c : Cli) :
    (c.phase = 1 → (step c).phase = 2 ∧ life (step c).log = life c.log) ∧
    (c.phase = 2 → ((step c).phase = 3 ∧ life (step c).log = life c.log ++ ["OPENED"]) ∨
                   ((step c).phase = 4 ∧ life (step c).log = life c.log ++ ["FAILED"])) ∧
    (c.phase = 3 → ((step c).phase = 3 ∧ life (step c).log = life c.log) ∨
                   ((step c).phase = 4 ∧ life (step c).log = life c.log ++ ["CLOSED"])) ∧
    (c.phase ≠ 1 → c.phase ≠ 2 → c.phase ≠ 3 → step c = c) := by
  refine ⟨?_, ?_, ?_, ?_⟩
  · intro h
    unfold step
    rw [if_pos h]
    exact ⟨rfl, rfl⟩
  · intro h
    unfold step
    rw [if_neg (by rw [h]; decide), if_pos h]
    by_cases hc : c.connectOk = true
    · left
      rw [if_pos hc]
      refine ⟨rfl, ?_⟩
      show life (c.log ++ [Obs.ev "OPENED"]) = _
      rw [life_append, life_ev]; rfl
    · right
      rw [if_neg hc]
      obtain ⟨f1, f2⟩ := finish_spec ({ c with failure := true } : Cli) "FAILED"
      exact ⟨f1, by rw [f2]; rfl⟩
  · intro h
    unfold step
    rw [if_neg (by rw [h]; decide), if_neg (by rw [h]; decide), if_pos h]
    rcases loopIter_spec c with hq | hq
    · left; exact ⟨by rw [hq.1, h], hq.2⟩
    · right; exact hq
  · intro h1 h2 h3
    unfold step
    rw [if_neg h1, if_neg h2, if_neg h3]

/-- what can happen between `connectAsync` and the end of the attempt: the thread runs to its next blocking point, the
peer, the clock and the connect result change, the application calls the API -/
inductive COp where
  | step
  | env (sock : Sock) (dt : Nat) (connectOk : Bool)
  | send (asdu : List Nat)
  | startdt
  | stopdt

def COp.apply (c : Cli) : COp → Cli
  | .step => Iec.Cli104.step c
  | .env sk dt ok => { c with sock := sk, now := c.now + dt, connectOk := ok }
  | .send a => (sendAsdu c a).1
  | .startdt => sendStartDT c
  | .stopdt => sendStopDT c

/-- `base`: the life-cycle events reported before the attempt began -/
def LifeInv (base : List String) (c : Cli) : Prop :=
  ((c.phase = 1 ∨ c.phase = 2) ∧ life c.log = base) ∨
  (c.phase = 3 ∧ life c.log = base ++ ["OPENED"]) ∨
  (c.phase = 4 ∧ (life c.log = base ++ ["OPENED", "CLOSED"] ∨ life c.log = base ++ ["FAILED"]))

theorem lifeInv_quiet {base : List String} {c c' : Cli} (h : LifeInv base c) (hq : Quiet c c') : LifeInv base c' := by
  obtain ⟨hp, hl⟩ := hq
  unfold LifeInv at h ⊢
  rw [hp, hl]; exact h

theorem lifeInv_apply (base : List String) (c : Cli) (op : COp) (h : LifeInv base c) : LifeInv base (op.apply c) := by
  cases op with
  | env sk dt ok => exact lifeInv_quiet h ⟨rfl, rfl⟩
  | send a => exact lifeInv_quiet h (quiet_sendAsdu c a)
  | startdt => exact lifeInv_quiet h (calm_sendStartDT c).reception.quiet
  | stopdt => exact lifeInv_quiet h (calm_sendStopDT c).reception.quiet
  | step =>
    obtain ⟨s1, s2, s3, s4⟩ := step_spec c
    show LifeInv base (Iec.Cli104.step c)
    rcases h with ⟨hp, hl⟩ | ⟨hp, hl⟩ | ⟨hp, hl⟩
    · rcases hp with hp | hp
      · obtain ⟨a, b⟩ := s1 hp
        exact Or.inl ⟨Or.inr a, by rw [b, hl]⟩
      · rcases s2 hp with ⟨a, b⟩ | ⟨a, b⟩
        · exact Or.inr (Or.inl ⟨a, by rw [b, hl]⟩)
        · exact Or.inr (Or.inr ⟨a, Or.inr (by rw [b, hl])⟩)
    · rcases s3 hp with ⟨a, b⟩ | ⟨a, b⟩
      · exact Or.inr (Or.inl ⟨a, by rw [b, hl]⟩)
      · exact Or.inr (Or.inr ⟨a, Or.inl (by rw [b, hl]; simp)⟩)
    · rw [s4 (by omega) (by omega) (by omega)]
      exact Or.inr (Or.inr ⟨hp, hl⟩)

theorem attempt_life (c0 : Cli) (ops : List COp) :
    LifeInv (life c0.log) (ops.foldl COp.apply (connectAsync c0)) :=
  List.foldlRecOn ops COp.apply (Or.inl ⟨Or.inl rfl, rfl⟩) fun c h op _ => lifeInv_apply _ c op h

end Iec.Cli104
