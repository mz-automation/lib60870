/-
Every event ring of the server is well-formed in every reachable state: the layout invariant `MqInv` of the ring
refinement (Lemmas/MsgQueue.lean) holds for the queue of every redundancy group / connection after every history of a
server created with room for at least one entry, so the ring theorems of C06 and C13 apply to reachable states without
a hypothesis.  Every ring operation of the server (`QOps`) keeps the invariant and the size of the ring; `run_groups`
does the rest.
-/
import Iec.Lemmas.Srv104Groups
import Iec.Lemmas.MsgQueueWf
namespace Iec.Srv104
open Iec.Queues

/-- well-formed and large enough for one entry of maximal size: 266 = the entry header (`HDR` = 16) + 250, the longest
ASDU the ring theorems speak of (`d.length ≤ 250`); it is what `qwf_enqueue` asks for -/
def QOk (q : MsgQueue) : Prop := QWf q ∧ 266 ≤ q.size

def GInv (s : Slave) : Prop := ∀ g, QOk (s.grp g).lowQ

structure GR (s s' : Slave) : Prop where
  imp : GInv s → GInv s'

theorem gr_of_conns {s s' : Slave} (_ : s'.p = s.p) (_ : s'.conns = s.conns) (hg : s'.groups = s.groups) : GR s s' :=
  ⟨fun h g => by unfold Slave.grp; rw [hg]; exact h g⟩

theorem qok_create (n : Nat) (hn : 1 ≤ n) : QOk (MsgQueue.create n) :=
  ⟨qwf_create n, by
    show 266 ≤ n * (HDR + 256)
    simp only [HDR]
    calc 266 ≤ 1 * (16 + 256) := by decide
      _ ≤ n * (16 + 256) := Nat.mul_le_mul_right _ hn⟩

theorem QOps.qok {wipe : Prop} {R : List (Nat × Nat)} {g g' : Group} (h : QOps wipe R g g') (hq : QOk g.lowQ) :
    QOk g'.lowQ := by
  induction h with
  | refl => exact hq
  | trans _ _ ih1 ih2 => exact ih2 (ih1 hq)
  | upd u =>
    cases u with
    | fetch => exact ⟨qwf_getNextWaiting _ hq.1, by rw [getNextWaiting_size]; exact hq.2⟩
    | _ => exact hq
  | confirm _ o id => exact ⟨qwf_markConfirmed _ o id hq.1, by rw [markConfirmed_size]; exact hq.2⟩
  | rearm _ o id => exact ⟨qwf_setEntryWaiting _ o id hq.1, by rw [setEntryWaiting_size]; exact hq.2⟩
  | init => exact ⟨qwf_initialize _, hq.2⟩
  | clear => exact ⟨qwf_releaseAll _, hq.2⟩

def GOk (s : Slave) : Prop := 1 ≤ s.p.lowQ ∧ GInv s

theorem run_gok (p : Params) (gs : List (String × List (Bool × List Nat))) (hq : 1 ≤ p.lowQ) (ops : List WOp) :
    GOk (ops.foldl WOp.apply (create p gs)) :=
  have ⟨hp, hg⟩ := run_groups (Q := fun x => QOk x.lowQ) QOps.qok (qok_create 1 (Nat.le_refl 1))
    (fun a _ h => ⟨qwf_enqueue _ a h.2 h.1, by rw [enqueue_size]; exact h.2⟩) p gs (fun _ => qok_create _ hq) ops
  ⟨by rw [hp]; exact hq, hg⟩

end Iec.Srv104
