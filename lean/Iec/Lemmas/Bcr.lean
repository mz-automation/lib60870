import Iec.Model.Bcr
namespace Iec.Bcr

/-- On the 16-bit range the sign test of `setScaledValue` leaves C's truncating `%` and `/` a non-negative
number only, where they are the Euclidean ones. -/
theorem setScaled_eq (x : Int) (h1 : -32768 ≤ x) (h2 : x ≤ 32767) :
    setScaled x = ((x % 65536).toNat % 256, (x % 65536).toNat / 256) := by
  have e : (if x < 0 then x + 65536 else x) = x % 65536 := by split <;> omega
  obtain ⟨u, hu⟩ : ∃ u : Nat, x % 65536 = u := ⟨(x % 65536).toNat, by omega⟩
  simp only [setScaled]
  rw [e, hu, Int.tmod_eq_emod_of_nonneg (by omega), Int.tdiv_eq_ediv_of_nonneg (by omega)]
  simp only [Int.toNat_natCast, Prod.mk.injEq]
  omega

end Iec.Bcr
