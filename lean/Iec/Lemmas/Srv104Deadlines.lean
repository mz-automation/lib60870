/-
The supervision deadlines after the periodic tasks of a connection (C11): if the connection is still running after
`MasterConnection_executePeriodicTasks`, then
  * it is not past its t3 deadline without an outstanding TESTFR act,
  * an outstanding TESTFR act is not older than t1,
  * its oldest unacknowledged I-format APDU is not older than t1,
  * received I-format APDUs are not unacknowledged for t2 or longer.
Each of the four parts of `handleTimeouts` establishes one of them and rewrites only fields the earlier ones do not read;
the periodic tasks of the connections that come later in the tick leave the record alone (`OK1`).
-/
import Iec.Lemmas.Srv104Isolated
namespace Iec.Srv104
open Iec.KWindow Iec.Queues

def Deadlines (p : Params) (now : Nat) (c : Conn) : Prop :=
  (c.waitingTestFR = false → now ≤ c.nextT3) ∧
  (c.waitingTestFR = true → now ≤ c.nextTestFR) ∧
  (∀ e rest, c.win = e :: rest → ¬ (now > e.sentTime ∧ now - e.sentTime ≥ p.t1 * 1000)) ∧
  (c.unconf > 0 → ∀ l, c.lastConf = some l → ¬ (now > l ∧ now - l ≥ p.t2 * 1000))

theorem sendS_conn_cases (s : Slave) (i : Nat) (hi : i < s.conns.length) :
    (sendS s i).conn i = s.conn i ∨ (sendS s i).conn i = { s.conn i with isRunning := false } := by
  unfold sendS
  simp only
  rcases write_cases s i [0x68, 0x04, 0x01, 0, seqLo (s.conn i).vr, seqHi (s.conn i).vr] with h | h <;> rw [h]
  · exact Or.inr (conn_setConn s i _ hi)
  · exact Or.inl rfl

theorem phaseT3_post (s : Slave) (i : Nat) (hi : i < s.conns.length) :
    ((phaseT3 s i).conn i).waitingTestFR = false → s.now ≤ ((phaseT3 s i).conn i).nextT3 := by
  unfold phaseT3
  extract_lets now c c0
  split
  rename_i c1 t3hit heq
  extract_lets s1
  have e1 : s1.conn i = c1 := conn_setConn s i c1 hi
  split
  · -- t3 expired: TESTFR act, supervision armed
    have hl : i < s1.conns.length := by dsimp only [s1]; rw [setConn_len]; exact hi
    rcases write_cases s1 i TESTFR_ACT with h | h <;> rw [h] <;>
      simp only [Bool.not_false, Bool.not_true, Bool.false_eq_true, ↓reduceIte]
    · rw [conn_setConn _ i _ (by rw [setConn_len]; exact hl)]
      exact fun h => Bool.noConfusion h
    · rw [conn_setConn (emit s1 _) i _ hl]
      exact fun h => Bool.noConfusion h
  · rename_i hhit
    rw [e1]
    split at heq
    · rename_i hw
      cases heq
      exact fun h => absurd (hw.symm.trans h) (by decide)
    · cases heq
      exact fun _ => by simpa using hhit

theorem phaseTestFR_post (s : Slave) (i : Nat) (hi : i < s.conns.length) :
    ∃ t, (phaseTestFR s i).1.conn i = { s.conn i with nextTestFR := t } ∧
      ((phaseTestFR s i).2 = true → (s.conn i).waitingTestFR = true → s.now ≤ t) := by
  unfold phaseTestFR
  extract_lets now c c1
  split
  · refine ⟨c1.nextTestFR, ?_, fun hok _ => by simpa using hok⟩
    rw [conn_setConn s i c1 hi]
    dsimp only [c1]; split <;> rfl
  · rename_i hw
    exact ⟨c.nextTestFR, rfl, fun _ h => absurd h hw⟩

theorem phaseT2_post (s : Slave) (i : Nat) (hi : i < s.conns.length) :
    ∃ lc u tt r, (phaseT2 s i).conn i = { s.conn i with lastConf := lc, unconf := u, t2Triggered := tt, isRunning := r } ∧
      (u > 0 → ∀ l, lc = some l → ¬ (s.now > l ∧ s.now - l ≥ s.p.t2 * 1000)) := by
  unfold phaseT2
  extract_lets now c c1 s1
  split
  · have e1 : s1.conn i = c1 := conn_setConn s i c1 hi
    have hc1 : c1 = { c with lastConf := c1.lastConf } := by
      dsimp only [c1]; split
      · split <;> rfl
      · rfl
    split
    · rename_i l hl
      split
      · -- t2 expired: acknowledged
        have hl1 : i < s1.conns.length := by dsimp only [s1]; rw [setConn_len]; exact hi
        rcases sendS_conn_cases (s1.setConn i { c1 with lastConf := some now, unconf := 0, t2Triggered := false }) i
          (by rw [setConn_len]; exact hl1) with e | e <;>
          exact ⟨some now, 0, false, _, by rw [e, conn_setConn s1 i _ hl1, hc1], fun h => absurd h (Nat.lt_irrefl 0)⟩
      · rename_i hexp
        refine ⟨c1.lastConf, c.unconf, c.t2Triggered, c.isRunning, e1.trans hc1, fun _ l' hl' => ?_⟩
        cases hl.symm.trans hl'
        simpa [now, s1, setConn_p] using hexp
    · rename_i hl
      exact ⟨c1.lastConf, c.unconf, c.t2Triggered, c.isRunning, e1.trans hc1, fun _ l hl' => by rw [hl] at hl'; cases hl'⟩
  · rename_i hu
    exact ⟨c.lastConf, c.unconf, c.t2Triggered, c.isRunning, rfl, fun h => absurd h hu⟩

theorem phaseT1_post (s : Slave) (i : Nat) (hi : i < s.conns.length) (ok1 : Bool) :
    ∃ w, (phaseT1 s i ok1).1.conn i = { s.conn i with win := w } ∧
      ((phaseT1 s i ok1).2 = true → ok1 = true ∧
        ∀ e rest, w = e :: rest → ¬ (s.now > e.sentTime ∧ s.now - e.sentTime ≥ s.p.t1 * 1000)) := by
  unfold phaseT1
  extract_lets now c
  split
  · rename_i hw
    exact ⟨c.win, rfl, fun h => ⟨h, fun e rest he => by rw [hw] at he; cases he⟩⟩
  · rename_i e rest hw
    extract_lets e1 s1
    refine ⟨e1 :: rest, ?_, ?_⟩
    · split <;> exact conn_setConn s i _ hi
    · split
      · exact fun h => Bool.noConfusion h
      · rename_i hexp
        refine fun h => ⟨h, fun e' rest' he' => ?_⟩
        cases he'
        simpa [now, s1, setConn_p] using hexp

theorem handleTimeouts_post (s : Slave) (i : Nat) (hi : i < s.conns.length) :
    (handleTimeouts s i).2 = true → Deadlines s.p s.now ((handleTimeouts s i).1.conn i) := by
  unfold handleTimeouts
  dsimp only
  have a := phaseT3_post s i hi
  obtain ⟨n1, p1, l1⟩ := (steps_phaseT3 (K := .quiet) (i := i) s).env
  generalize phaseT3 s i = s1 at a n1 p1 l1 ⊢
  have hi1 : i < s1.conns.length := l1 ▸ hi
  obtain ⟨t, b1, b2⟩ := phaseTestFR_post s1 i hi1
  obtain ⟨n2, p2, l2⟩ := (steps_phaseTestFR (K := .quiet) (i := i) s1).env
  generalize phaseTestFR s1 i = r2 at b1 b2 n2 p2 l2 ⊢
  obtain ⟨s2, ok1⟩ := r2
  dsimp only at b1 b2 n2 p2 l2 ⊢
  have hi2 : i < s2.conns.length := l2 ▸ hi1
  obtain ⟨lc, u, tt, r, c1, c2⟩ := phaseT2_post s2 i hi2
  obtain ⟨n3, p3, l3⟩ := (steps_phaseT2 (K := .quiet) (i := i) s2).env
  generalize phaseT2 s2 i = s3 at c1 c2 n3 p3 l3 ⊢
  obtain ⟨w, d1, d2⟩ := phaseT1_post s3 i (l3 ▸ hi2) ok1
  generalize phaseT1 s3 i ok1 = r4 at d1 d2 ⊢
  obtain ⟨s4, ok⟩ := r4
  dsimp only at d1 d2 ⊢
  intro hok
  obtain ⟨hok1, hT1⟩ := d2 hok
  rw [d1, c1, b1]
  rw [n3, n2, n1, p3, p2, p1] at hT1
  rw [n2, n1, p2, p1] at c2
  rw [n1] at b2
  exact ⟨a, b2 hok1, hT1, c2⟩

theorem periodic_post (s : Slave) (i : Nat) (hi : i < s.conns.length) :
    ((periodic s i).conn i).isRunning = true → Deadlines s.p s.now ((periodic s i).conn i) := by
  unfold periodic
  extract_lets s1
  obtain ⟨n1, p1, l1⟩ : s1.now = s.now ∧ s1.p = s.p ∧ s1.conns.length = s.conns.length := by
    dsimp only [s1]; split
    · rename_i h; exact (steps_sendWaitingASDUs s h).env
    · exact ⟨rfl, rfl, rfl⟩
  have hi1 : i < s1.conns.length := l1 ▸ hi
  have t := handleTimeouts_post s1 i hi1
  have l2 := (steps_handleTimeouts (K := .quiet) (i := i) s1).env.2.2
  generalize handleTimeouts s1 i = r at t l2
  obtain ⟨s2, ok⟩ := r
  dsimp only at t l2 ⊢
  rw [n1, p1] at t
  split
  · rw [conn_setConn s2 i _ (l2 ▸ hi1)]
    exact fun h => Bool.noConfusion h
  · rename_i hok
    exact fun _ => t (by simpa using hok)

def InTime (s : Slave) (i : Nat) : Prop :=
  (s.conn i).isUsed = true → (s.conn i).isRunning = true → Deadlines s.p s.now (s.conn i)

theorem foldl_slots {D : Slave → Nat → Prop} {g : Slave → Nat → Slave} (h1 : ∀ s j, D (g s j) j)
    (h2 : ∀ s j i, i ≠ j → D s i → D (g s j) i) (i : Nat) :
    ∀ (l : List Nat) (s : Slave), i ∈ l ∨ D s i → D (l.foldl g s) i := by
  intro l
  induction l with
  | nil => exact fun s h => h.elim (fun h => nomatch h) id
  | cons j l ih =>
    intro s h
    refine ih (g s j) ?_
    by_cases hl : i ∈ l
    · exact Or.inl hl
    · by_cases hij : i = j
      · exact Or.inr (hij ▸ h1 s j)
      · exact Or.inr (h2 s j i hij (h.elim (fun h => (List.mem_cons.1 h).elim (absurd · hij) (absurd · hl)) id))

theorem hcc_deadlines (s : Slave) (hoc : s.openConnections > 0) (i : Nat)
    (hu : ((handleClientConnections s).conn i).isUsed = true) (hr : ((handleClientConnections s).conn i).isRunning = true) :
    Deadlines (handleClientConnections s).p (handleClientConnections s).now ((handleClientConnections s).conn i) := by
  have hl : (handleClientConnections s).conns.length = s.conns.length :=
    hcc_inv (P := (·.conns.length = s.conns.length)) (fun _ _ _ _ ht a => a.p_len.2.trans ht)
      (fun t j _ ht => ((congrArg List.length (reap_conns t j)).trans (setConn_len _ _ _)).trans ht) s rfl
  have hi : i < s.conns.length := hl ▸ lt_of_used _ i hu
  revert hu hr
  unfold handleClientConnections
  rw [if_pos hoc]
  extract_lets idx
  split
  extract_lets s2
  -- the third pass: the periodic tasks of slot `j` put `j` in time and leave the other slots as they are
  refine foldl_slots (D := InTime) (fun t j => ?_) (fun t j k hk hd => ?_) i idx s2 (Or.inl (List.mem_range.2 hi))
  · split
    · intro hu hr
      obtain ⟨n, p, l⟩ := (steps_periodic (i := j) t).env
      rw [n, p]
      exact periodic_post t j (l ▸ lt_of_used _ j hu) hr
    · rename_i h
      exact fun hu hr => absurd (by rw [hu, hr]; rfl) h
  · split
    · obtain ⟨n, p, _⟩ := (steps_periodic (i := j) t).env
      unfold InTime
      rw [n, p]
      rcases (ok1_periodic t j).conn k hk with e | e <;> rw [e] <;> exact hd
    · exact hd

end Iec.Srv104
