/-
Soundness of the collecting interpreter `Iec.Locks.exec` for the path semantics
`Iec.Locks.Run`: if `exec` reports no fault, every outcome of every path is in
the computed sets (and in particular no path faults).  At the end: a rank that decreases along
every edge of the lock-order relation excludes a cycle.
-/
import Iec.Model.Locks
namespace Iec.Locks

theorem mem_uni {α} [DecidableEq α] (a b : List α) (y : α) : y ∈ uni a b ↔ y ∈ a ∨ y ∈ b := by
  unfold uni
  induction b generalizing a with
  | nil => simp
  | cons x xs ih =>
    rw [List.foldl_cons, ih, List.mem_cons, ← or_assoc]
    by_cases h : x ∈ a
    · rw [if_pos h, or_iff_left_of_imp fun e : y = x => e ▸ h]
    · rw [if_neg h, List.mem_append, List.mem_singleton]

theorem uni_prefix {α} [DecidableEq α] (a b : List α) : a <+: uni a b := by
  unfold uni
  induction b generalizing a with
  | nil => exact List.prefix_refl a
  | cons x xs ih =>
    rw [List.foldl_cons]
    refine List.IsPrefix.trans ?_ (ih _)
    by_cases h : x ∈ a
    · rw [if_pos h]; exact List.prefix_refl a
    · rw [if_neg h]; exact List.prefix_append a [x]

theorem uni_length_eq {α} [DecidableEq α] (a b : List α) (h : (uni a b).length = a.length) :
    ∀ y ∈ b, y ∈ a := fun y hy =>
  (uni_prefix a b).eq_of_length h.symm ▸ (mem_uni a b y).mpr (Or.inr hy)

def Covers (r : Res) : Out → Prop
  | .norm st => st ∈ r.norm
  | .brk h => h ∈ r.brk
  | .cont h => h ∈ r.cont
  | .ret h => h ∈ r.ret
  | .fault => r.fault = true

def Ok (r : Res) (o : Out) : Prop := Covers r o ∨ r.fault = true

theorem covers_merge {a b : Res} {o : Out} : Covers (a.merge b) o ↔ Covers a o ∨ Covers b o := by
  cases o <;> simp [Covers, Res.merge, mem_uni]

theorem fault_merge_l {a b : Res} (h : a.fault = true) : (a.merge b).fault = true :=
  (covers_merge (o := .fault)).mpr (Or.inl h)
theorem fault_merge_r {a b : Res} (h : b.fault = true) : (a.merge b).fault = true :=
  (covers_merge (o := .fault)).mpr (Or.inr h)

theorem ok_merge_l {a b : Res} {o : Out} (h : Ok a o) : Ok (a.merge b) o :=
  h.imp (fun h => covers_merge.mpr (Or.inl h)) fault_merge_l
theorem ok_merge_r {a b : Res} {o : Out} (h : Ok b o) : Ok (a.merge b) o :=
  h.imp (fun h => covers_merge.mpr (Or.inr h)) fault_merge_r

theorem overAll_foldl_acc (f : St → Res) (sts : List St) (acc : Res) (o : Out) (h : Ok acc o) :
    Ok (sts.foldl (fun acc st => acc.merge (f st)) acc) o := by
  induction sts generalizing acc with
  | nil => exact h
  | cons x xs ih => exact ih _ (ok_merge_l h)

theorem ok_overAll {f : St → Res} {sts : List St} {st : St} {o : Out} (hm : st ∈ sts)
    (h : Ok (f st) o) : Ok (overAll f sts) o := by
  unfold overAll
  generalize ({} : Res) = acc
  induction sts generalizing acc with
  | nil => cases hm
  | cons x xs ih =>
    rw [List.foldl_cons]
    rcases List.mem_cons.mp hm with rfl | hm
    · exact overAll_foldl_acc f xs _ o (ok_merge_r h)
    · exact ih hm _

/-- The answer of `loopFix`: the head states `S` are closed under one round (body, then step), and `r` is what
one round from `S` yields.  `loop_sound` is by induction on the run with this as the invariant. -/
structure LoopInv (body step : St → Res) (S : List St) (r : Res) : Prop where
  eq : r = (overAll body S).merge
        { overAll step (uni (overAll body S).norm ((overAll body S).cont.map (fun h => (⟨none, h⟩ : St))))
          with norm := [] }
  closed : ∀ st ∈ (overAll step (uni (overAll body S).norm
        ((overAll body S).cont.map (fun h => (⟨none, h⟩ : St))))).norm, st ∈ S

theorem loopFix_spec (body step : St → Res) (fuel : Nat) (S0 S : List St) (r : Res)
    (h : loopFix body step fuel S0 = some (S, r)) :
    (∀ st ∈ S0, st ∈ S) ∧ LoopInv body step S r := by
  induction fuel generalizing S0 with
  | zero => simp [loopFix] at h
  | succ n ih =>
    simp only [loopFix] at h
    split at h
    · rename_i hlen
      injection h with h
      injection h with h1 h2
      subst h1
      refine ⟨fun st hst => hst, ⟨h2.symm, ?_⟩⟩
      exact uni_length_eq _ _ hlen
    · obtain ⟨hsub, hinv⟩ := ih _ h
      exact ⟨fun st hst => hsub st ((mem_uni _ _ _).mpr (Or.inl hst)), hinv⟩

theorem LoopInv.ok_body {body step : St → Res} {S : List St} {r : Res} (hinv : LoopInv body step S r)
    {st : St} {o : Out} (hst : st ∈ S) (h : Ok (body st) o) : Ok r o :=
  hinv.eq ▸ ok_merge_l (ok_overAll hst h)

theorem LoopInv.ok_round {body step : St → Res} {S : List St} {r : Res} (hinv : LoopInv body step S r)
    {st st1 : St} {o1 o : Out} (hst : st ∈ S) (h1 : Ok (body st) o1)
    (hm : o1 = .norm st1 ∨ ∃ h, o1 = .cont h ∧ st1 = ⟨none, h⟩) (h2 : Ok (step st1) o) :
    (∀ st2, o = .norm st2 → st2 ∈ S ∨ r.fault = true) ∧ ((∀ st2, o ≠ .norm st2) → Ok r o) := by
  rcases ok_overAll hst h1 with c | f
  · have hmid := (mem_uni (overAll body S).norm ((overAll body S).cont.map fun h => (⟨none, h⟩ : St)) st1).mpr <| by
      rcases hm with rfl | ⟨h, rfl, rfl⟩
      · exact Or.inl c
      · exact Or.inr (List.mem_map.mpr ⟨h, c, rfl⟩)
    rcases ok_overAll hmid h2 with c2 | f2
    · cases o with
      | norm st2 => exact ⟨fun _ e => Or.inl (hinv.closed _ (Out.norm.inj e ▸ c2)), fun hn => absurd rfl (hn st2)⟩
      | _ => exact ⟨fun _ e => Out.noConfusion e, fun _ => hinv.eq ▸ ok_merge_r (Or.inl c2)⟩
    · have f : r.fault = true := by rw [hinv.eq]; exact fault_merge_r f2
      exact ⟨fun _ _ => Or.inr f, fun _ => Or.inr f⟩
  · have f : r.fault = true := by rw [hinv.eq]; exact fault_merge_l f
    exact ⟨fun _ _ => Or.inr f, fun _ => Or.inr f⟩

theorem ok_loopRes {S : List St} {r : Res} {o : Out} (h : Ok r o) (ho : o = .fault ∨ ∃ h, o = .ret h) :
    Ok (loopRes S r) o := by
  rcases ho with rfl | ⟨_, rfl⟩ <;> exact h

theorem isAtom_exec (s : Stmt) (hs : isAtom s = true) (st : St) : exec s st = execAtom s st := by
  cases s <;> simp [isAtom] at hs <;> simp [exec]

theorem run_atom_ok (s : Stmt) (hs : isAtom s = true) (st : St) (o : Out) (h : Run s st o) :
    Ok (execAtom s st) o := by
  cases h <;> simp [isAtom] at hs <;>
    simp_all [execAtom, Ok, Covers]

theorem loop_sound (a b : Stmt)
    (iha : ∀ st o, Run a st o → Ok (exec a st) o)
    (ihb : ∀ st o, Run b st o → Ok (exec b st) o)
    (S : List St) (r : Res) (hinv : LoopInv (exec a) (exec b) S r)
    (st : St) (o : Out) (hrun : Run (.loop a b) st o) (hst : st ∈ S) :
    Ok (loopRes S r) o := by
  generalize hs : Stmt.loop a b = s at hrun
  induction hrun with
  | seeking_atom hat => subst hs; cases hat
  | loop_exit => exact Or.inl ((mem_uni _ _ _).mpr (Or.inl hst))
  | loop_iter h1 h2 _ _ _ ih3 =>
    cases hs
    rcases (hinv.ok_round hst (iha _ _ h1) (.inl rfl) (ihb _ _ h2)).1 _ rfl with h | f
    · exact ih3 h rfl
    · exact Or.inr f
  | loop_cont h1 h2 _ _ _ ih3 =>
    cases hs
    rcases (hinv.ok_round hst (iha _ _ h1) (.inr ⟨_, rfl, rfl⟩) (ihb _ _ h2)).1 _ rfl with h | f
    · exact ih3 h rfl
    · exact Or.inr f
  | loop_brk h1 =>
    cases hs
    exact (hinv.ok_body hst (iha _ _ h1)).imp
      (fun c => (mem_uni _ _ _).mpr (Or.inr (List.mem_map.mpr ⟨_, c, rfl⟩))) id
  | loop_body_stop h1 ho =>
    cases hs
    exact ok_loopRes (hinv.ok_body hst (iha _ _ h1)) ho
  | loop_step_stop h1 h2 ho =>
    cases hs
    refine ok_loopRes ((hinv.ok_round hst (iha _ _ h1) (.inl rfl) (ihb _ _ h2)).2 ?_) ho
    rcases ho with rfl | ⟨_, rfl⟩ <;> exact fun _ e => Out.noConfusion e
  | loop_step_stop_c h1 h2 ho =>
    cases hs
    refine ok_loopRes ((hinv.ok_round hst (iha _ _ h1) (.inr ⟨_, rfl, rfl⟩) (ihb _ _ h2)).2 ?_) ho
    rcases ho with rfl | ⟨_, rfl⟩ <;> exact fun _ e => Out.noConfusion e
  | _ => cases hs

theorem exec_sound (s : Stmt) : ∀ (st : St) (o : Out), Run s st o → Ok (exec s st) o := by
  induction s with
  | seq a b iha ihb =>
    intro st o h
    cases h with
    | seeking_atom hat => cases hat
    | seq_norm h1 h2 =>
      rcases iha _ _ h1 with c | f
      · exact ok_merge_r (ok_overAll c (ihb _ _ h2))
      · exact Or.inr (fault_merge_l f)
    | seq_stop h1 hn =>
      rcases iha _ _ h1 with c | f
      · refine ok_merge_l (Or.inl ?_)
        cases o with
        | norm st' => exact absurd rfl (hn st')
        | _ => exact c
      · exact Or.inr (fault_merge_l f)
  | choice a b iha ihb =>
    intro st o h
    cases h with
    | seeking_atom hat => cases hat
    | choice_l h1 => exact ok_merge_l (iha _ _ h1)
    | choice_r h1 => exact ok_merge_r (ihb _ _ h1)
  | «catch» a iha =>
    intro st o h
    cases h with
    | seeking_atom hat => cases hat
    | catch_brk h1 =>
      exact (iha _ _ h1).imp (fun c => (mem_uni _ _ _).mpr (Or.inr (List.mem_map.mpr ⟨_, c, rfl⟩))) id
    | catch_other h1 hn =>
      refine (iha _ _ h1).imp (fun c => ?_) id
      cases o with
      | brk h => exact absurd rfl (hn h)
      | norm st' => exact (mem_uni _ _ _).mpr (Or.inl c)
      | _ => exact c
  | loop a b iha ihb =>
    intro st o h
    simp only [exec]
    cases hfix : loopFix (exec a) (exec b) loopFuel [st] with
    | none => right; rfl
    | some p =>
      obtain ⟨hsub, hinv⟩ := loopFix_spec _ _ _ _ _ _ hfix
      exact loop_sound a b iha ihb _ _ hinv st o h (hsub st (List.mem_singleton_self st))
  | label n =>
    intro st o h
    cases h with
    | seeking_atom hat => cases hat
    | label_hit => left; simp [exec, Covers]
    | label_miss hne => left; simp [exec, Covers, hne]
    | label_pass => left; simp [exec, Covers]
  | _ =>
    intro st o h
    rw [isAtom_exec _ (by rfl)]
    exact run_atom_ok _ (by rfl) st o h

/-- A `true` verdict for a function body: every path from "nothing held" falls off the end or returns with
nothing held; no path faults or leaves by `break`, `continue` or an unresolved `goto`. -/
theorem balanced_sound (s : Stmt) (hb : balanced s = true) (o : Out) (hr : Run s start o) :
    o = .norm start ∨ o = .ret [] := by
  have hs := exec_sound s start o hr
  simp only [balanced, Bool.and_eq_true, Bool.not_eq_true', List.all_eq_true, List.isEmpty_iff,
    beq_iff_eq] at hb
  obtain ⟨⟨⟨⟨hf, hbrk⟩, hcont⟩, hnorm⟩, hret⟩ := hb
  rcases hs with c | f
  · cases o with
    | norm st => left; rw [hnorm st c]
    | brk h => simp [Covers, hbrk] at c
    | cont h => simp [Covers, hcont] at c
    | ret h => right; rw [hret h c]
    | fault => simp [Covers, hf] at c
  · rw [hf] at f; cases f

end Iec.Locks

namespace Iec.Locks

/-- `Path es x y`: a thread holds `x` and waits for a lock, whose holder waits for a lock, …,
whose holder waits for `y` — each step an edge of the lock-order relation. -/
inductive Path (es : List (Nat × Nat)) : Nat → Nat → Prop where
  | one {x y} : (x, y) ∈ es → Path es x y
  | cons {x y z} : (x, y) ∈ es → Path es y z → Path es x z

/-- A rank that strictly decreases along every edge rules out every cycle, hence every
circular wait among threads that respect the relation. -/
theorem ranked_no_cycle (es : List (Nat × Nat)) (rk : Nat → Nat)
    (h : es.all (fun e => rk e.2 < rk e.1) = true) : ∀ x, ¬ Path es x x := by
  have hp : ∀ x y, Path es x y → rk y < rk x := by
    intro x y p
    induction p with
    | one he => have := List.all_eq_true.mp h _ he; simpa using this
    | cons he _ ih => have := List.all_eq_true.mp h _ he; simp at this; omega
  intro x p
  exact Nat.lt_irrefl _ (hp x x p)

end Iec.Locks
