/-
What the server does to the queues of a redundancy group.  Serving a connection, ending one and admitting one replace the
two rings of a group only by the ring operations `QOps` lists; an acknowledgement confirms only entries that the k-buffer
of the acknowledging connection refers to.  Whatever the ring operations keep (the layout invariants of the two rings,
the entries of the event ring) is thereby kept by a tick, and with `enqueue`, `restart` and creation by every history.
-/
import Iec.Lemmas.Srv104Hist
namespace Iec.Srv104
open Iec.KWindow Iec.Queues

theorem grp_setGrp (s : Slave) (g : Nat) (x : Group) (hg : g < s.groups.length) : (s.setGrp g x).grp g = x := by
  simp [Slave.grp, Slave.setGrp, List.getD_eq_getElem?_getD, hg]

theorem grp_setGrp_ne (s : Slave) (g g' : Nat) (x : Group) (h : g' ≠ g) : (s.setGrp g x).grp g' = s.grp g' := by
  simp [Slave.grp, Slave.setGrp, List.getD_eq_getElem?_getD, List.getElem?_set_ne (Ne.symm h)]

theorem grp_setGrp_cases (s : Slave) (k : Nat) (x : Group) (g : Nat) :
    (s.setGrp k x).grp g = s.grp g ∨ (g = k ∧ (s.setGrp k x).grp g = x) := by
  by_cases hg : g = k
  · subst hg
    rcases Nat.lt_or_ge g s.groups.length with hl | hl
    · exact .inr ⟨rfl, grp_setGrp s g x hl⟩
    · left; unfold Slave.setGrp; rw [List.set_eq_of_length_le hl]
  · exact .inl (grp_setGrp_ne s k g x hg)

theorem grp_of_map (s' : Slave) (gs : List Group) (f : Group → Group) (h : s'.groups = gs.map f) (g : Nat) :
    s'.grp g = if g < gs.length then f (gs.getD g {}) else {} := by
  unfold Slave.grp
  rw [h]
  simp only [List.getD_eq_getElem?_getD, List.getElem?_map]
  by_cases hg : g < gs.length <;> simp [hg]

/-- `h0`: beyond the table `grp` is the default group -/
theorem map_groups {Q : Group → Prop} {s s' : Slave} {f : Group → Group} (hs : s'.groups = s.groups.map f) (h0 : Q {})
    (hf : ∀ g, Q (s.grp g) → Q (f (s.grp g))) (h : ∀ g, Q (s.grp g)) (g : Nat) : Q (s'.grp g) := by
  rw [grp_of_map s' s.groups f hs g]
  split
  · exact hf g (h g)
  · exact h0

theorem restart_groups {Q : Group → Prop} (s : Slave) (h0 : Q {})
    (hnew : ∀ x : Group, Q { x with lowQ := MsgQueue.create s.p.lowQ, highQ := HpQueue.create s.p.highQ })
    (h : ∀ g, Q (s.grp g)) (g : Nat) : Q ((restart s).grp g) := by
  by_cases hm : s.p.mode = 2
  · have e : (restart s).groups = s.groups := by unfold restart; simp only [hm, if_true]
    unfold Slave.grp; rw [e]; exact h g
  · exact map_groups (f := fun x => { x with lowQ := MsgQueue.create s.p.lowQ, highQ := HpQueue.create s.p.highQ })
      (by unfold restart; simp only [hm, if_false]) h0 (fun _ _ => hnew _) h g

theorem create_grp (p : Params) (gs : List (String × List (Bool × List Nat))) (g : Nat) :
    (create p gs).grp g = {} ∨ ∃ n al, (create p gs).grp g =
      { name := n, allowed := al, lowQ := MsgQueue.create p.lowQ, highQ := HpQueue.create p.highQ } := by
  have key : ∀ l : List Group, (∀ x ∈ l, ∃ n al, x =
      { name := n, allowed := al, lowQ := MsgQueue.create p.lowQ, highQ := HpQueue.create p.highQ }) →
      l.getD g {} = {} ∨ ∃ n al, l.getD g {} =
        { name := n, allowed := al, lowQ := MsgQueue.create p.lowQ, highQ := HpQueue.create p.highQ } := by
    intro l hl
    rw [List.getD_eq_getElem?_getD]
    cases hx : l[g]? with
    | none => exact .inl rfl
    | some x => exact .inr (hl x (List.mem_of_getElem? hx))
  unfold Slave.grp create
  refine key _ fun x hx => ?_
  have one : ∀ y : Group, x ∈ [y] → x = y := fun y h => List.mem_singleton.mp h
  split at hx
  · exact ⟨_, _, one _ hx⟩
  split at hx
  · obtain ⟨_, _, e⟩ := List.mem_map.mp hx
    exact ⟨_, _, e.symm⟩
  split at hx
  · exact ⟨_, _, one _ hx⟩
  · obtain ⟨⟨n, al⟩, _, e⟩ := List.mem_map.mp hx
    exact ⟨n, al, e.symm⟩

def refsOf (win : List KEntry) : List (Nat × Nat) := win.filterMap (·.qref)

theorem mem_refsOf {win : List KEntry} {e : KEntry} {r : Nat × Nat} (he : e ∈ win) (hr : e.qref = some r) : r ∈ refsOf win :=
  List.mem_filterMap.mpr ⟨e, he, hr⟩

/-- `g'` results from `g` by ring operations of the server: those of reception and transmission (`GUpd`), confirming an
entry referred to in `R` (an acknowledgement, `confirmReleased`), re-arming an entry (reaping, `resetUnconfirmed`) and,
only where `wipe`, emptying the event ring (admission in connection-is-group mode: `accept`, `initConn`) -/
inductive QOps (wipe : Prop) (R : List (Nat × Nat)) : Group → Group → Prop
  | refl (g) : QOps wipe R g g
  | trans {a b c} : QOps wipe R a b → QOps wipe R b c → QOps wipe R a c
  | upd {g g'} : GUpd g g' → QOps wipe R g g'
  | confirm (g) (o id : Nat) : (o, id) ∈ R → QOps wipe R g { g with lowQ := g.lowQ.markConfirmed o id }
  | rearm (g) (o id : Nat) : QOps wipe R g { g with lowQ := g.lowQ.setEntryWaiting o id }
  | init (g) : wipe → QOps wipe R g { g with lowQ := g.lowQ.initialize }
  | clear (g) : wipe → QOps wipe R g { g with lowQ := g.lowQ.releaseAll }

namespace QOps
variable {wipe : Prop} {R : List (Nat × Nat)}

theorem of_groups {s t : Slave} (h : t.groups = s.groups) (g : Nat) : QOps wipe R (s.grp g) (t.grp g) := by
  unfold Slave.grp; rw [h]; exact .refl _

theorem setGrp (s : Slave) (k : Nat) {x : Group} (h : QOps wipe R (s.grp k) x) (g : Nat) :
    QOps wipe R (s.grp g) ((s.setGrp k x).grp g) := by
  rcases grp_setGrp_cases s k x g with e | ⟨rfl, e⟩ <;> rw [e]
  · exact .refl _
  · exact h

theorem foldl {α} (f : Slave → α → Slave) (l : List α)
    (hf : ∀ s x, x ∈ l → ∀ g, QOps wipe R (s.grp g) ((f s x).grp g)) (s : Slave) (g : Nat) :
    QOps wipe R (s.grp g) ((l.foldl f s).grp g) := by
  induction l generalizing s with
  | nil => exact .refl _
  | cons x l ih =>
    exact .trans (hf s x List.mem_cons_self g) (ih (fun s y hy => hf s y (List.mem_cons_of_mem _ hy)) _)

end QOps

variable {wipe : Prop} {R : List (Nat × Nat)}

theorem confirmReleased_groups (s : Slave) (i : Nat) (rel : List KEntry) (hR : ∀ e ∈ rel, ∀ r, e.qref = some r → r ∈ R)
    (g : Nat) : QOps wipe R (s.grp g) ((confirmReleased s i rel).grp g) := by
  unfold confirmReleased
  refine QOps.foldl _ _ (fun t e he g => ?_) s g
  split
  · rename_i o id hq
    exact .setGrp t _ (.confirm _ o id (hR e he _ hq)) g
  · exact .refl _

theorem resetUnconfirmed_groups (s : Slave) (j : Nat) (g : Nat) : QOps wipe R (s.grp g) ((resetUnconfirmed s j).grp g) := by
  unfold resetUnconfirmed
  refine QOps.foldl _ _ (fun t e _ g => ?_) s g
  split
  · exact .setGrp t _ (.rearm _ _ _) g
  · exact .refl _

theorem Atom.groups {K : Caps} {i : Nat} {s t : Slave} (a : Atom K i s t)
    (hR : K.ack → ∀ r ∈ refsOf (s.conn i).win, r ∈ R) (g : Nat) : QOps wipe R (s.grp g) (t.grp g) := by
  cases a with
  | grp u => exact .setGrp s _ (.upd u) g
  | ack nr hk =>
    obtain ⟨d, rel, _, hsub, e⟩ := checkSeqConn_cases s i nr
    rw [e]
    exact confirmReleased_groups (s.setConn i _) i rel (fun x hx r hr => hR hk r (mem_refsOf (hsub x hx) hr)) g
  | sendI a q _ _ _ => rcases sendI_cases s i a q with e | e <;> rw [e] <;> exact .refl _
  | deact _ => exact .of_groups (deactivate_onlyLife s i).rest.2.2.1 g
  | actv _ => exact .of_groups (activate_onlyLife s i).rest.2.2.1 g
  | _ => exact .refl _

theorem reap_groups (t : Slave) (j : Nat) (g : Nat) : QOps wipe R (t.grp g) ((reap t j).grp g) :=
  resetUnconfirmed_groups (emit t (.ev j "CLOSED")) j g

theorem openSlot_groups (s : Slave) (i : Nat) (sk : Sock) (k : Nat) (g : Nat) :
    QOps True R (s.grp g) ((openSlot s i sk k).grp g) := by
  unfold openSlot initConn
  extract_lets gr s1 c c1 s2 gi g1 g2 s3 s4 src s5
  have h1 : QOps True R (s.grp g) (s1.grp g) := by
    dsimp only [s1]; split
    · exact .setGrp s i (.trans (.init _ trivial) (.upd (.flush _))) g
    · exact .refl _
  have h2 : QOps True R g1 g2 := by
    dsimp only [g2]; split
    · exact .clear _ trivial
    · exact .refl _
  exact h1.trans (.setGrp s2 gi (h2.trans (.upd (.flush _))) g)

theorem tick_groups {Q : Group → Prop} (hQ : ∀ {R g g'}, QOps True R g g' → Q g → Q g') (s : Slave)
    (h : ∀ g, Q (s.grp g)) : (tick s).p = s.p ∧ ∀ g, Q ((tick s).grp g) := by
  exact tick_inv (P := fun t => t.p = s.p ∧ ∀ g, Q (t.grp g))
    (fun i t u _ ht a => ⟨a.p_len.1.trans ht.1, fun g => hQ (a.groups (fun _ _ hr => hr) g) (ht.2 g)⟩)
    (fun t j _ ht => ⟨(reap_p t j).trans ht.1, fun g => hQ (R := []) (reap_groups t j g) (ht.2 g)⟩) (fun t pd aa ht => ht)
    (fun t i sk k hi _ ht => ⟨(openSlot_p t i sk k hi).trans ht.1, fun g => hQ (R := []) (openSlot_groups t i sk k g) (ht.2 g)⟩)
    s ⟨rfl, h⟩

theorem run_groups {Q : Group → Prop} (hQ : ∀ {R g g'}, QOps True R g g' → Q g → Q g') (h0 : Q {})
    (henq : ∀ a (x : Group), Q x → Q { x with lowQ := x.lowQ.enqueue a }) (p : Params)
    (gs : List (String × List (Bool × List Nat)))
    (hnew : ∀ x : Group, Q { x with lowQ := MsgQueue.create p.lowQ, highQ := HpQueue.create p.highQ }) (ops : List WOp) :
    (ops.foldl WOp.apply (create p gs)).p = p ∧ ∀ g, Q ((ops.foldl WOp.apply (create p gs)).grp g) := by
  refine run_inv (P := fun t => t.p = p ∧ ∀ g, Q (t.grp g)) ⟨rfl, fun g => ?_⟩ (fun s op h => ?_) ops
  · rcases create_grp p gs g with e | ⟨n, al, e⟩ <;> rw [e]
    · exact h0
    · exact hnew { name := n, allowed := al }
  · cases op with
    | tick =>
      obtain ⟨hp, hg⟩ := tick_groups hQ s h.2
      exact ⟨hp.trans h.1, hg⟩
    | enqueue a => exact ⟨h.1, map_groups (s' := enqueue s a) rfl h0 (fun _ => henq a _) h.2⟩
    | restart => exact ⟨h.1, restart_groups s h0 (by rw [h.1]; exact hnew) h.2⟩
    | env e => exact ⟨(e.p s).trans h.1, fun g => (e.grp s g).symm ▸ h.2 g⟩

end Iec.Srv104
