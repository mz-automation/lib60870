/-
Every operation the server applies to an event ring keeps the layout invariant `MqInv` (for SOME pair of lists; `enqueue`
in a ring of at least 266 octets): the ring stays well-formed whatever reference `markAsduAsConfirmed` /
`setEntryWaitingForTransmission` is called with, stale or not.
-/
import Iec.Lemmas.MsgQueueKept
namespace Iec.Queues

def QWf (q : MsgQueue) : Prop := ∃ up low, MqInv q up low

theorem KeptX.qwf {R : List (Nat × Nat)} {q q' : MsgQueue} (hk : KeptX R q q') (h : QWf q) : QWf q' := by
  obtain ⟨up, low, hi⟩ := h
  obtain ⟨up', low', _, h', _⟩ := hk up low hi
  exact ⟨up', low', h'⟩

theorem qwf_create (n : Nat) : QWf (MsgQueue.create n) := ⟨[], [], .nil rfl⟩

theorem qwf_enqueue (q : MsgQueue) (d : List Nat) (hs : 266 ≤ q.size) (h : QWf q) : QWf (q.enqueue d) := by
  obtain ⟨up, low, hi⟩ := h
  by_cases hd : d.length ≤ 250
  · exact ⟨_, _, enqueue_place q up low hi d hd hs⟩
  · rw [mq_enqueue_big q d (by omega)]; exact ⟨up, low, hi⟩

theorem qwf_getNextWaiting (q : MsgQueue) (h : QWf q) : QWf q.getNextWaiting.1 := (kept_getNextWaiting [] q).qwf h

theorem setState_count (q : MsgQueue) (o st : Nat) : (q.setState o st).count = q.count := rfl

theorem qwf_markConfirmed (q : MsgQueue) (o id : Nat) (h : QWf q) : QWf (q.markConfirmed o id) :=
  (kept_markConfirmed q o id).qwf h

theorem qwf_setEntryWaiting (q : MsgQueue) (o id : Nat) (h : QWf q) : QWf (q.setEntryWaiting o id) :=
  (kept_setEntryWaiting [] q o id).qwf h

theorem qwf_releaseAll (q : MsgQueue) : QWf q.releaseAll := ⟨[], [], .nil rfl⟩

theorem qwf_initialize (q : MsgQueue) : QWf q.initialize := ⟨[], [], .nil rfl⟩

theorem markConfirmed_size (q : MsgQueue) (o id : Nat) : (q.markConfirmed o id).size = q.size := by
  rcases markConfirmed_cases q o id with h | ⟨_, _, _, _, h⟩ <;> rw [h]
  split
  · exact removeFirst_size _
  · rfl

theorem setEntryWaiting_size (q : MsgQueue) (o id : Nat) : (q.setEntryWaiting o id).size = q.size := by
  rcases setEntryWaiting_cases q o id with h | ⟨_, _, _, h⟩ <;> rw [h] <;> rfl

theorem getNextWaiting_size (q : MsgQueue) : q.getNextWaiting.1.size = q.size := by
  rcases getNextWaiting_cases q with h | ⟨_, _, _, _, h⟩ <;> rw [h] <;> rfl

end Iec.Queues
