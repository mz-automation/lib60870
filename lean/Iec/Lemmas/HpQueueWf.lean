/-
Every operation the server applies to a reply ring keeps the layout invariant `HpInv` (for some pair of lists).
-/
import Iec.Lemmas.HpQueue
namespace Iec.Queues

def HWf (q : HpQueue) : Prop := ∃ up low, HpInv q up low

theorem hwf_create (n : Nat) (hn : 1 ≤ n) : HWf (HpQueue.create n) := ⟨[], [], HpInv.empty n hn⟩

theorem hwf_enqueue (q : HpQueue) (d : List Nat) (h : HWf q) : HWf (q.enqueue d).1 := by
  obtain ⟨up, low, hi⟩ := h
  obtain ⟨h1, h2⟩ := enqueue_refines q up low hi d
  cases hb : (q.enqueue d).2
  · exact ⟨up, low, h2 hb⟩
  · obtain ⟨up', low', h', _⟩ := h1 hb
    exact ⟨up', low', h'⟩

theorem hwf_getNext (q : HpQueue) (h : HWf q) : HWf q.getNext.1 := by
  obtain ⟨up, low, hi⟩ := h
  cases up with
  | nil => rw [getNext_empty q [] low hi rfl]; exact ⟨[], low, hi⟩
  | cons u0 rest =>
    obtain ⟨q', he, h1, h2⟩ := getNext_refines q u0 rest low hi
    rw [he]
    by_cases hr : rest = []
    · exact ⟨_, _, h2 hr⟩
    · exact ⟨_, _, h1 hr⟩

theorem hwf_reset (q : HpQueue) (h : HWf q) : HWf q.reset := by
  obtain ⟨up, low, hi⟩ := h
  exact ⟨[], [], .nil hi.size rfl⟩

end Iec.Queues
