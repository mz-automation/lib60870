/-
The connection events of the server over every history (C18): per slot the event log follows
  ( OPENED ( ACTIVATED DEACTIVATED )* ACTIVATED? CLOSED )*  (an unfinished last round allowed),
and at every moment the log agrees with the state: the slot is in use iff its last round is open, and the connection is
STARTED iff the last event of the round is ACTIVATED (`LInv`).  Events are logged in four places only: by the atoms
`deactivate` (DEACTIVATED exactly when a started connection in use leaves STARTED) and `activate` (the same for the other
connections, ACTIVATED exactly when the connection becomes STARTED), by the reaping step (CLOSED) and by the admission
step (OPENED).  Slots are taken and freed in the last two, hence the open-connection counter is the number of slots in
use (`OcInv`).
-/
import Iec.Lemmas.Srv104Hist
namespace Iec.Srv104
open Iec.KWindow Iec.Queues

/-- one step of the per-slot life-cycle automaton: 0 no connection, 1 open and not started, 2 started, 3 grammar violated -/
def lifeStep (j : Nat) (st : Nat) : Obs → Nat
  | .ev c w =>
    if c = j then
      if w = "OPENED" then (if st = 0 then 1 else 3)
      else if w = "CLOSED" then (if st = 1 ∨ st = 2 then 0 else 3)
      else if w = "ACTIVATED" then (if st = 1 then 2 else 3)
      else if w = "DEACTIVATED" then (if st = 2 then 1 else 3)
      else st
    else st
  | _ => st

def lifeOf (log : List Obs) (j : Nat) : Nat := log.foldl (lifeStep j) 0

theorem lifeOf_snoc (log : List Obs) (o : Obs) (j : Nat) : lifeOf (log ++ [o]) j = lifeStep j (lifeOf log j) o := by
  simp [lifeOf, List.foldl_append]

theorem lifeStep_3 (j : Nat) (o : Obs) : lifeStep j 3 o = 3 := by
  cases o with
  | ev c w => simp [lifeStep]
  | _ => rfl

theorem lifeOf_3_absorbing (j : Nat) : ∀ (l : List Obs) (st : Nat), st = 3 → l.foldl (lifeStep j) st = 3 := by
  intro l
  induction l with
  | nil => intro st h; exact h
  | cons o l ih => intro st h; subst h; exact ih _ (lifeStep_3 j o)

theorem lifeOf_prefix (l1 l2 : List Obs) (j : Nat) (h : lifeOf (l1 ++ l2) j ≠ 3) : lifeOf l1 j ≠ 3 := by
  intro h3
  apply h
  unfold lifeOf at h3 ⊢
  rw [List.foldl_append]
  exact lifeOf_3_absorbing j l2 _ h3

/-- the state of the automaton that goes with a record -/
def expected (c : Conn) : Nat := if c.isUsed then (if c.state = 1 then 2 else 1) else 0

theorem expected_ne_3 (c : Conn) : expected c ≠ 3 := by
  unfold expected; repeat' split
  all_goals decide

/-- in particular no slot's log has violated the grammar (`expected_ne_3`) -/
def LInv (s : Slave) : Prop := ∀ j, lifeOf s.log j = expected (s.conn j)

def SameLife (c c' : Conn) : Prop := c'.isUsed = c.isUsed ∧ (c.isUsed = true → (c'.state = 1 ↔ c.state = 1))

theorem SameLife.refl (c : Conn) : SameLife c c := ⟨rfl, fun _ => Iff.rfl⟩
theorem SameLife.expected {c c' : Conn} (h : SameLife c c') : expected c' = expected c := by
  unfold Iec.Srv104.expected
  rw [h.1]
  cases hu : c.isUsed
  · rfl
  · have := h.2 hu
    by_cases h1 : c.state = 1
    · simp [h1, this.mpr h1]
    · have h2 : ¬ c'.state = 1 := fun x => h1 (this.mp x)
      simp [h1, h2]

def Obs.notEv : Obs → Prop
  | .ev _ _ => False
  | _ => True

theorem lifeStep_notEv (j st : Nat) (o : Obs) (h : o.notEv) : lifeStep j st o = st := by
  cases o <;> first | rfl | exact absurd h id

theorem lifeStep_other (j c st : Nat) (w : String) (h : c ≠ j) : lifeStep j st (.ev c w) = st := by
  simp [lifeStep, h]

theorem Note.notEv {i : Nat} {o : Obs} (n : Note i o) : o.notEv := by cases n <;> trivial

theorem linv_same {t u : Slave} (h : LInv t) (hl : u.log = t.log) (hc : ∀ j, SameLife (t.conn j) (u.conn j)) : LInv u :=
  fun j => by rw [hl, (hc j).expected]; exact h j

theorem linv_note {t u : Slave} (h : LInv t) {o : Obs} (hl : u.log = t.log ++ [o]) (ho : o.notEv)
    (hc : ∀ j, SameLife (t.conn j) (u.conn j)) : LInv u :=
  fun j => by rw [hl, lifeOf_snoc, lifeStep_notEv _ _ _ ho, (hc j).expected]; exact h j

theorem linv_event {t u : Slave} (h : LInv t) {j : Nat} {w : String} {c' : Conn} (hj : j < t.conns.length)
    (hlog : u.log = t.log ++ [.ev j w]) (hconns : u.conns = (t.setConn j c').conns)
    (hstep : lifeStep j (expected (t.conn j)) (.ev j w) = expected c') : LInv u := fun x => by
  have e : u.conn x = (t.setConn j c').conn x := by unfold Slave.conn; rw [hconns]
  rw [hlog, lifeOf_snoc, h x, e]
  by_cases hx : x = j
  · subst hx; rw [conn_setConn _ _ _ hj]; exact hstep
  · rw [conn_setConn_ne _ _ _ _ hx, lifeStep_other _ _ _ _ (Ne.symm hx)]

theorem sameLife_frame (K : Caps) (i : Nat) (hd : ¬ K.deact) (ha : ¬ K.actv) : Frame K i fun _ => SameLife where
  refl _ := SameLife.refl
  trans _ _ _ _ h1 h2 := ⟨h2.1.trans h1.1, fun hu => (h2.2 (h1.1 ▸ hu)).trans (h1.2 hu)⟩
  upd u := by
    cases u with
    | halted h => exact ⟨rfl, fun _ => ⟨fun h0 => by simp at h0, fun h1 => absurd h1 h⟩⟩
    | _ => exact SameLife.refl _
  sendI _ _ _ _ _ _ := ⟨SameLife.refl _, SameLife.refl _⟩
  deact h := absurd h hd
  actv h := absurd h ha
  count _ _ := SameLife.refl _

theorem linv_deactivate (t : Slave) (j : Nat) (h : LInv t) : LInv (deactivate t j) := by
  rcases deactivate_cases t j with ⟨hc, e⟩ | ⟨hu, hs, e⟩ <;> rw [e]
  · refine linv_same h rfl fun x => ?_
    rcases conn_setConn_cases t j { t.conn j with state := 2 } x with e | ⟨rfl, _, e⟩ <;> rw [e]
    · exact SameLife.refl _
    · exact ⟨rfl, fun hu => ⟨fun h2 => by simp at h2, fun h1 => absurd ⟨hu, h1⟩ hc⟩⟩
  · exact linv_event h (lt_of_used t j hu) rfl rfl (by simp [expected, lifeStep, hu, hs])

theorem linv_activateConn (t : Slave) (i : Nat) (hu : (t.conn i).isUsed = true) (h : LInv t) : LInv (activateConn t i) := by
  rcases activateConn_cases t i with ⟨hs, e⟩ | ⟨hs, e⟩ <;> rw [e]
  · refine linv_same h rfl fun x => ?_
    rcases conn_setConn_cases t i { t.conn i with state := 1 } x with e | ⟨rfl, _, e⟩ <;> rw [e]
    · exact SameLife.refl _
    · exact ⟨rfl, fun _ => ⟨fun _ => hs, fun _ => rfl⟩⟩
  · exact linv_event h (lt_of_used t i hu) rfl rfl (by simp [expected, lifeStep, hu, hs])

theorem linv_atom {K : Caps} {i : Nat} {t u : Slave} (hu : (t.conn i).isUsed = true) (h : LInv t) (a : Atom K i t u) :
    LInv u := by
  rcases a.life_or with ⟨_, rfl⟩ | ⟨_, rfl⟩ | a
  · exact linv_deactivate t i h
  · exact activate_ind t i h linv_deactivate fun x hx hl => linv_activateConn x i ((hx i).trans hu) hl
  · have hc := fun j => (a.perConn (sameLife_frame _ i id id)).conn j
    rcases a.log_cases with e | ⟨hk, _⟩ | ⟨o, n, e⟩ | ⟨b, _, e⟩ | ⟨b, q, _, _, e⟩
    · exact linv_same h e hc
    · exact (hk.elim id id).elim
    · exact linv_note h e n.notEv hc
    · exact linv_note h e trivial hc
    · exact linv_note h e trivial hc

theorem linv_reap (t : Slave) (j : Nat) (hu : (t.conn j).isUsed = true) (h : LInv t) : LInv (reap t j) :=
  linv_event h (lt_of_used t j hu) (reap_log t j) (reap_conns t j)
    (by by_cases h1 : (t.conn j).state = 1 <;> simp [expected, lifeStep, hu, h1])

theorem linv_openSlot (t : Slave) (i : Nat) (sk : Sock) (g : Nat) (hi : i < t.conns.length)
    (hu : (t.conn i).isUsed = false) (h : LInv t) : LInv (openSlot t i sk g) :=
  linv_event h hi (openSlot_log t i sk g hi) (openSlot_conns t i sk g hi) (by simp [expected, lifeStep, hu, Conn.opened])

theorem linv_apply (s : Slave) (op : LOp) (h : LInv s) : LInv (op.apply s) := by
  cases op with
  | tick =>
    exact tick_inv (fun i t u hu ht a => linv_atom hu ht a) linv_reap (fun t pd aa ht => ht)
      (fun t i sk g hi hu ht => linv_openSlot t i sk g hi hu ht) s h
  | enqueue a => exact h
  | env e => exact linv_same h (e.log s) (PerConn.env (C := fun _ => SameLife) e s fun _ _ _ => SameLife.refl _).conn

theorem run_linv (p : Params) (gs : List (String × List (Bool × List Nat))) (ops : List LOp) :
    LInv (ops.foldl LOp.apply (create p gs)) :=
  run_inv_L (fun j => by rw [create_conn]; rfl) linv_apply ops

def usedCount (s : Slave) : Nat := s.conns.countP (·.isUsed)

/-- `openConnections` is what `CS104_Slave_getOpenConnections` returns -/
def OcInv (s : Slave) : Prop := s.openConnections = (usedCount s : Int)

theorem conn_eq_getElem (s : Slave) (j : Nat) (h : j < s.conns.length) : s.conn j = s.conns[j] := by
  unfold Slave.conn; simp [List.getD_eq_getElem?_getD, h]

theorem usedCount_congr {s s' : Slave} (hl : s'.conns.length = s.conns.length)
    (hu : ∀ j, (s'.conn j).isUsed = (s.conn j).isUsed) : usedCount s' = usedCount s := by
  have hm : s'.conns.map (·.isUsed) = s.conns.map (·.isUsed) := by
    apply List.ext_getElem (by simp [hl])
    intro i h1 h2
    simp only [List.getElem_map]
    have a := hu i
    rw [conn_eq_getElem s' i (by simpa using h1), conn_eq_getElem s i (by simpa using h2)] at a
    exact a
  have e : ∀ t : Slave, usedCount t = (t.conns.map (·.isUsed)).countP id := by
    intro t; unfold usedCount; rw [List.countP_map]; rfl
  rw [e, e, hm]

theorem usedCount_set (s : Slave) (i : Nat) (c : Conn) (hi : i < s.conns.length) :
    usedCount (s.setConn i c) = usedCount s - (if (s.conn i).isUsed then 1 else 0) + (if c.isUsed then 1 else 0) := by
  unfold usedCount Slave.setConn
  rw [List.countP_set hi, conn_eq_getElem s i hi]

theorem usedCount_pos (s : Slave) (j : Nat) (hu : (s.conn j).isUsed = true) : 0 < usedCount s :=
  List.countP_pos_iff.mpr ⟨s.conns[j]'(lt_of_used s j hu), List.getElem_mem _, by
    rw [← conn_eq_getElem s j (lt_of_used s j hu)]; exact hu⟩

theorem oc_apply (s : Slave) (op : LOp) (h : OcInv s) : OcInv (op.apply s) := by
  cases op with
  | tick =>
    refine tick_inv (fun i t u _ ht a => ?_) (fun t j hu ht => ?_) (fun t pd aa ht => ht)
      (fun t i sk g hi hu ht => ?_) s h
    · show u.openConnections = (usedCount u : Int)
      rw [a.now_oc.2, usedCount_congr a.p_len.2 (Steps.one a).used]; exact ht
    · obtain ⟨gs, e⟩ := reap_eq t j
      rw [e]
      show t.openConnections - 1 = (usedCount (t.setConn j _) : Int)
      have := usedCount_pos t j hu
      rw [usedCount_set _ _ _ (lt_of_used t j hu), hu, ht]; simp; omega
    · obtain ⟨gs, e⟩ := openSlot_eq t i sk g hi
      rw [e]
      show t.openConnections + 1 = (usedCount (t.setConn i _) : Int)
      rw [usedCount_set _ _ _ hi, hu, ht]; simp [Conn.opened]
  | enqueue a => exact h
  | env e =>
    show (e.f s).openConnections = (usedCount (e.f s) : Int)
    rw [e.oc s, usedCount_congr (e.len s) (fun j => by rw [e.conn s j]), h]

theorem create_oc (p : Params) (gs : List (String × List (Bool × List Nat))) : OcInv (create p gs) := by
  unfold OcInv usedCount create
  have : List.countP (fun c : Conn => c.isUsed) ((List.range p.nSlots).map fun _ => ({} : Conn)) = 0 := by
    apply List.countP_eq_zero.mpr
    intro c hc
    obtain ⟨_, _, rfl⟩ := List.mem_map.mp hc
    simp
  show ((0 : Int)) = ((List.countP (fun c : Conn => c.isUsed) ((List.range p.nSlots).map fun _ => ({} : Conn)) : Nat) : Int)
  rw [this]; rfl

theorem run_oc (p : Params) (gs : List (String × List (Bool × List Nat))) (ops : List LOp) :
    OcInv (ops.foldl LOp.apply (create p gs)) :=
  run_inv_L (create_oc p gs) oc_apply ops

end Iec.Srv104
