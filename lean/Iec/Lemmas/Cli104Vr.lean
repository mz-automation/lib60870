/-
The client's V(R) over every sequence of received messages: it advances by one (modulo 32768) exactly when an I-format
APDU passes both sequence checks of `checkMessage`, and is otherwise unchanged - so the N(R) the client sends is the number
of I-format APDUs it accepted since V(R) was 0, modulo 32768.
-/
import Iec.Lemmas.Cli104
namespace Iec.Cli104
open Iec.KWindow Iec.Srv104

def CAccepted (c : Cli) (buf : List Nat) : Prop :=
  7 ≤ buf.length ∧ buf.getD 2 0 &&& 1 = 0 ∧ frameNS buf = c.vr ∧ valid c.vs c.win (frameNR buf) = true

instance (c : Cli) (buf : List Nat) : Decidable (CAccepted c buf) := by unfold CAccepted; infer_instance

theorem write_vr (c : Cli) (b : List Nat) : (write c b).vr = c.vr := by rw [write_eq]

theorem checkMessage_accept (c : Cli) (buf : List Nat) (h : CAccepted c buf) :
    checkMessage c buf = if buf.length - 6 < c.p.asduHdr then (counted (markT2 c) buf, false)
      else (touchT3 (emit (counted (markT2 c) buf) (.asdu (buf.drop 6))), true) := by
  obtain ⟨h7, hI, hns, hv⟩ := h
  rw [checkMessage_I c buf (by omega) hI, markT2_eq c]
  exact recvI_accept _ buf h7 hns hv

theorem checkMessage_I_reject (c : Cli) (buf : List Nat) (h6 : 6 ≤ buf.length) (hI : buf.getD 2 0 &&& 1 = 0)
    (h : ¬ CAccepted c buf) : checkMessage c buf = (markT2 c, false) := by
  rw [checkMessage_I c buf h6 hI, recvI_reject]
  rw [markT2_eq c]
  exact fun ⟨h7, hns, hv⟩ => h ⟨h7, hI, hns, hv⟩

theorem calm_checkMessage (c : Cli) (buf : List Nat) (h : ¬ CAccepted c buf) : Calm c (checkMessage c buf).1 := by
  by_cases hI : 6 ≤ buf.length ∧ buf.getD 2 0 &&& 1 = 0
  · rw [checkMessage_I_reject c buf hI.1 hI.2 h]; exact calm_markT2 c
  · exact calm_checkMessage_other c buf hI

theorem checkMessage_vr (c : Cli) (buf : List Nat) :
    (checkMessage c buf).1.vr = if CAccepted c buf then (c.vr + 1) % 32768 else c.vr := by
  split
  · rename_i h
    rw [checkMessage_accept c buf h, ← markT2_vr c]
    split <;> rfl
  · rename_i h
    exact (calm_checkMessage c buf h).vr

/-- The close verdict is ignored, so V(R) is counted also along sequences the connection loop would have cut short at a
closing message; `recvRunC` (`Cli104Deliver`) stops there. -/
def recvAllC (c : Cli) (ms : List (List Nat)) : Cli := ms.foldl (fun c m => (checkMessage c m).1) c

def acceptedCountC (c : Cli) : List (List Nat) → Nat
  | [] => 0
  | m :: ms => (if CAccepted c m then 1 else 0) + acceptedCountC (checkMessage c m).1 ms

theorem vr_counts_acceptedC : ∀ (ms : List (List Nat)) (c : Cli), c.vr < 32768 →
    (recvAllC c ms).vr = (c.vr + acceptedCountC c ms) % 32768
  | [], c, hv => (Nat.mod_eq_of_lt hv).symm
  | m :: ms, c, hv => by
    show (recvAllC (checkMessage c m).1 ms).vr =
      (c.vr + ((if CAccepted c m then 1 else 0) + acceptedCountC (checkMessage c m).1 ms)) % 32768
    have hm := checkMessage_vr c m
    by_cases ha : CAccepted c m
    · rw [if_pos ha] at hm ⊢
      rw [vr_counts_acceptedC ms _ (by rw [hm]; exact Nat.mod_lt _ (by decide)), hm, Nat.mod_add_mod, Nat.add_assoc]
    · rw [if_neg ha] at hm ⊢
      rw [vr_counts_acceptedC ms _ (by rw [hm]; exact hv), hm, Nat.zero_add]

end Iec.Cli104
