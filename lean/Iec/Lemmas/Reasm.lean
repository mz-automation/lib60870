import Iec.Model.Srv104
/-
Reassembly lemmas: one `receiveMessage` call in terms of the unconsumed octet stream, and
the loop `drain` equals the stream specification `parseS`.
-/
namespace Iec.Srv104

def Sock.stream (s : Sock) : List Nat := s.chunks.flatten

/-- the harness never feeds an empty chunk -/
def Sock.Ok (s : Sock) : Prop := s.peerClosed = false ∧ ∀ c ∈ s.chunks, c ≠ []

theorem read_spec (s : Sock) (h : s.Ok) (n : Nat) :
    let r := s.read n
    r.1.Ok ∧ r.2.1 = (r.2.2.length : Int) ∧ r.2.2 ++ r.1.stream = s.stream ∧ r.2.2.length ≤ n ∧
    (s.stream ≠ [] → 0 < n → r.2.2 ≠ []) ∧ (s.stream = [] → r.2.2 = []) := by
  obtain ⟨hc, hne⟩ := h
  unfold Sock.read
  cases hch : s.chunks with
  | nil =>
    simp only [hc, Bool.false_eq_true, if_false]
    refine ⟨⟨hc, by simp [hch]⟩, by simp, by simp [Sock.stream, hch], by simp, by simp [Sock.stream, hch], by simp⟩
  | cons c rest =>
    have hcne : c ≠ [] := hne c (by simp [hch])
    have hce : c.isEmpty = false := by cases c <;> simp_all
    simp only [hce, Bool.false_eq_true, if_false]
    refine ⟨⟨hc, ?_⟩, trivial, ?_, by simp; omega, ?_, ?_⟩
    · intro x hx
      by_cases hl : (c.drop n).isEmpty = true
      · simp only [hl, if_true] at hx; exact hne x (by simp [hch, hx])
      · simp only [hl] at hx
        simp only [Bool.false_eq_true, if_false, List.mem_cons] at hx
        rcases hx with rfl | hx
        · intro he; simp [he] at hl
        · exact hne x (by simp [hch, hx])
    · simp only [Sock.stream, hch, List.flatten_cons]
      by_cases hl : (c.drop n).isEmpty = true
      · simp only [hl, if_true]
        have : c.drop n = [] := by simpa using hl
        congr 1
        conv => rhs; rw [← List.take_append_drop n c]
        rw [this]; simp
      · simp only [hl, Bool.false_eq_true, if_false, List.flatten_cons]
        rw [← List.append_assoc, List.take_append_drop]
    · intro _ hn
      intro he
      have : c.take n = [] := he
      cases c with
      | nil => exact hcne rfl
      | cons a as => cases n with
        | zero => omega
        | succ m => simp at this
    · intro hs; simp [Sock.stream, hch] at hs; exact absurd hs.1 hcne

def Complete (msg : List Nat) : Prop := ∃ len body, msg = 0x68 :: len :: body ∧ body.length = len

/-- what the receive buffer can hold between calls of `receiveMessage` -/
def PartialOk (buf : List Nat) : Prop :=
  buf = [] ∨ buf = [0x68] ∨ ∃ len xs, buf = 0x68 :: len :: xs ∧ xs.length < len

theorem recvRest_spec (len : Nat) (xs : List Nat) (hx : xs.length ≤ len) (sk : Sock) (h : sk.Ok) :
    let r := recvRest (0x68 :: len :: xs) sk
    r.2.1.Ok ∧ r.2.1.stream.length ≤ sk.stream.length ∧
    ((r.2.2.1 = 0 ∧ PartialOk r.1 ∧ r.1 ++ r.2.1.stream = (0x68 :: len :: xs) ++ sk.stream ∧
        (sk.stream ≠ [] → r.2.1.stream.length < sk.stream.length)) ∨
     (r.2.2.1 > 0 ∧ r.1 = [] ∧ Complete r.2.2.2 ∧ r.2.2.2 ++ r.2.1.stream = (0x68 :: len :: xs) ++ sk.stream ∧
        r.2.2.1 = (r.2.2.2.length : Int))) := by
  have hr := read_spec sk h (len - xs.length)
  simp only at hr
  obtain ⟨hok, hrl, hst, hle, hne, _⟩ := hr
  unfold recvRest
  simp only [List.getD_cons_succ, List.getD_cons_zero, List.length_cons]
  have hrem : ((len : Int) - ((xs.length + 1 + 1 : Nat) : Int) + 2).toNat = len - xs.length := by omega
  rw [hrem]
  generalize hrd : sk.read (len - xs.length) = rd at hok hrl hst hle hne
  obtain ⟨sk', r, got⟩ := rd
  simp only at hok hrl hst hle hne ⊢
  have hlen : sk'.stream.length ≤ sk.stream.length := by rw [← hst]; simp
  by_cases hfull : r = (len : Int) - ((xs.length + 1 + 1 : Nat) : Int) + 2
  · rw [if_pos hfull]
    refine ⟨hok, hlen, Or.inr ⟨by simp only; omega, rfl, ?_, ?_, ?_⟩⟩
    · exact ⟨len, xs ++ got, by simp, by simp; omega⟩
    · simp only [List.cons_append, List.append_assoc, hst]
    · simp only [List.length_append, List.length_cons]; omega
  · rw [if_neg hfull]
    have hr1 : ¬ r = -1 := by omega
    rw [if_neg hr1]
    refine ⟨hok, hlen, Or.inl ⟨rfl, ?_, ?_, ?_⟩⟩
    · exact Or.inr (Or.inr ⟨len, xs ++ got, by simp, by simp; omega⟩)
    · simp only [List.cons_append, List.append_assoc, hst]
    · intro hs
      have hx2 : xs.length < len := by omega
      have := hne hs (by omega)
      show sk'.stream.length < sk.stream.length
      rw [← hst]; simp only [List.length_append]
      cases got with
      | nil => exact absurd rfl this
      | cons a as => simp

/-- The three cases go by the return value of `receiveMessage`: 0 no complete frame yet, positive a frame,
negative a wrong start octet. -/
def StepPost (buf : List Nat) (sk : Sock) (r : List Nat × Sock × Int × List Nat) : Prop :=
  r.2.1.Ok ∧ r.2.1.stream.length ≤ sk.stream.length ∧
  ((r.2.2.1 = 0 ∧ PartialOk r.1 ∧ r.1 ++ r.2.1.stream = buf ++ sk.stream ∧
      (sk.stream ≠ [] → r.2.1.stream.length < sk.stream.length)) ∨
   (r.2.2.1 > 0 ∧ r.1 = [] ∧ Complete r.2.2.2 ∧ r.2.2.2 ++ r.2.1.stream = buf ++ sk.stream) ∨
   (r.2.2.1 < 0 ∧ buf = [] ∧ ∃ b rest, sk.stream = b :: rest ∧ b ≠ 0x68))

theorem read_one (sk : Sock) (h : sk.Ok) :
    ∃ sk', sk'.Ok ∧ ((sk.read 1 = (sk', 0, []) ∧ sk'.stream = sk.stream ∧ sk.stream = []) ∨
      ∃ b, sk.read 1 = (sk', 1, [b]) ∧ b :: sk'.stream = sk.stream) := by
  have hr := read_spec sk h 1
  generalize sk.read 1 = rd at hr
  obtain ⟨sk', r, got⟩ := rd
  simp only at hr
  obtain ⟨hok, hrl, hst, hle, hne, _⟩ := hr
  match got, hrl, hst, hle, hne with
  | [], hrl, hst, _, hne =>
    exact ⟨sk', hok, .inl ⟨by rw [hrl]; rfl, hst, Classical.byContradiction fun hs => hne hs (by decide) rfl⟩⟩
  | [b], hrl, hst, _, _ => exact ⟨sk', hok, .inr ⟨b, by rw [hrl]; rfl, hst⟩⟩
  | _ :: _ :: _, _, _, hle, _ => exact absurd hle (by simp)

theorem StepPost.after_octet {buf buf' : List Nat} {b : Nat} {sk sk' : Sock} {r : List Nat × Sock × Int × List Nat}
    (hst : b :: sk'.stream = sk.stream) (hb : buf' = buf ++ [b]) (h : StepPost buf' sk' r) (hn : ¬ r.2.2.1 < 0) :
    StepPost buf sk r := by
  obtain ⟨hok, hl, hcase⟩ := h
  have hdec : r.2.1.stream.length < sk.stream.length := by rw [← hst]; exact Nat.lt_succ_of_le hl
  refine ⟨hok, Nat.le_of_lt hdec, ?_⟩
  rcases hcase with ⟨a, p, c, _⟩ | ⟨a, e, c, d⟩ | ⟨a, _⟩
  · exact Or.inl ⟨a, p, by rw [c, hb, ← hst, List.append_assoc]; rfl, fun _ => hdec⟩
  · exact Or.inr (Or.inl ⟨a, e, c, by rw [d, hb, ← hst, List.append_assoc]; rfl⟩)
  · exact absurd a hn

theorem recvLen_spec (sk : Sock) (h : sk.Ok) : StepPost [0x68] sk (recvLen [0x68] sk) := by
  unfold recvLen
  obtain ⟨sk', hok, ⟨e, hst, hemp⟩ | ⟨l, e, hst⟩⟩ := read_one sk h <;> rw [e] <;> dsimp only
  · rw [if_neg (by decide), if_pos rfl]
    exact ⟨hok, Nat.le_of_eq (congrArg List.length hst),
      Or.inl ⟨rfl, Or.inr (Or.inl rfl), by rw [hst], fun hs => absurd hemp hs⟩⟩
  · rw [if_neg (by decide), if_neg (by decide)]
    obtain ⟨hok2, hl2, hcase⟩ := recvRest_spec l [] (Nat.zero_le _) sk' hok
    refine StepPost.after_octet hst rfl ⟨hok2, hl2, ?_⟩ ?_
    · rcases hcase with ⟨a, b, c, d⟩ | ⟨a, b, c, d, _⟩
      · exact Or.inl ⟨a, b, c, d⟩
      · exact Or.inr (Or.inl ⟨a, b, c, d⟩)
    · intro hn
      change (recvRest [104, l] sk').2.2.1 < 0 at hn
      rcases hcase with ⟨a, _⟩ | ⟨a, _⟩ <;> omega

theorem recvStep_spec (buf : List Nat) (hb : PartialOk buf) (sk : Sock) (h : sk.Ok) :
    StepPost buf sk (recvStep buf sk) := by
  unfold recvStep
  rcases hb with rfl | rfl | ⟨len, xs, rfl, hx⟩
  · rw [if_pos (by decide)]
    obtain ⟨sk', hok, ⟨e, hst, hemp⟩ | ⟨b, e, hst⟩⟩ := read_one sk h <;> rw [e] <;> dsimp only
    · rw [if_pos (by decide)]
      exact ⟨hok, Nat.le_of_eq (congrArg List.length hst), Or.inl ⟨rfl, Or.inl rfl, by rw [hst], fun hs => absurd hemp hs⟩⟩
    · rw [if_neg (by decide)]
      by_cases hb68 : b = 0x68
      · subst hb68
        rw [if_neg (by decide)]
        have hs := recvLen_spec sk' hok
        refine StepPost.after_octet hst rfl hs fun hn => ?_
        rcases hs.2.2 with ⟨a, _⟩ | ⟨a, _⟩ | ⟨_, a, _⟩
        · omega
        · omega
        · exact absurd a (by decide)
      · rw [if_pos (by simpa using hb68)]
        exact ⟨hok, by rw [← hst]; exact Nat.le_succ _, Or.inr (Or.inr ⟨(by decide : (-1 : Int) < 0), rfl, b, sk'.stream, hst.symm, hb68⟩)⟩
  · rw [if_neg (by decide), if_pos (by decide)]
    exact recvLen_spec sk h
  · rw [if_neg (by simp), if_neg (by simp)]
    obtain ⟨hok, hl2, hcase⟩ := recvRest_spec len xs (by omega) sk h
    refine ⟨hok, hl2, ?_⟩
    rcases hcase with ⟨a, b, c, d⟩ | ⟨a, b, c, d, _⟩
    · exact Or.inl ⟨a, b, c, d⟩
    · exact Or.inr (Or.inl ⟨a, b, c, d⟩)

/-- the frames of an octet stream, whether it hits a wrong start octet, and the incomplete tail: a function
of the stream alone -/
def parseS : List Nat → List (List Nat) × Bool × List Nat
  | [] => ([], false, [])
  | [b] => if b = 0x68 then ([], false, [b]) else ([], true, [])
  | b :: len :: rest =>
    if b ≠ 0x68 then ([], true, [])
    else if rest.length < len then ([], false, b :: len :: rest)
    else
      let r := parseS (rest.drop len)
      ((b :: len :: rest.take len) :: r.1, r.2.1, r.2.2)
termination_by S => S.length
decreasing_by simp; omega

/-- what the connection loop does with the socket: call `receiveMessage` until the input is
used up (or an error), collecting the complete frames -/
def drain : Nat → List Nat → Sock → List (List Nat) × Bool × List Nat
  | 0, buf, _ => ([], false, buf)
  | f + 1, buf, sk =>
    let r := recvStep buf sk
    if r.2.2.1 < 0 then ([], true, [])
    else if r.2.2.1 > 0 then
      let d := drain f r.1 r.2.1
      (r.2.2.2 :: d.1, d.2.1, d.2.2)
    else if r.2.1.stream = [] then ([], false, r.1)
    else drain f r.1 r.2.1

theorem parseS_partial (b : List Nat) (h : PartialOk b) : parseS b = ([], false, b) := by
  rcases h with rfl | rfl | ⟨len, xs, rfl, hx⟩
  · rw [parseS]
  · rw [parseS]; simp
  · rw [parseS]; simp [hx]

theorem parseS_complete (msg R : List Nat) (h : Complete msg) :
    parseS (msg ++ R) = (msg :: (parseS R).1, (parseS R).2.1, (parseS R).2.2) := by
  obtain ⟨len, body, rfl, hb⟩ := h
  simp only [List.cons_append]
  rw [parseS]
  have h1 : ¬ ((body ++ R).length < len) := by simp; omega
  simp only [ne_eq, not_true_eq_false, if_false, h1]
  have e1 : (body ++ R).drop len = R := by rw [← hb]; exact List.drop_left
  have e2 : (body ++ R).take len = body := by rw [← hb]; exact List.take_left
  rw [e1, e2]

theorem parseS_badstart (b : Nat) (rest : List Nat) (h : b ≠ 0x68) : parseS (b :: rest) = ([], true, []) := by
  cases rest with
  | nil => rw [parseS]; simp [h]
  | cons l r => rw [parseS]; simp [h]

/-- The fuel bound is a measure that falls with every call: a partial read moves octets from the stream to the
buffer (hence the stream counts twice), a complete frame empties the buffer. -/
theorem drain_eq_parse : ∀ (fuel : Nat) (buf : List Nat) (sk : Sock), PartialOk buf → sk.Ok →
    2 * sk.stream.length + buf.length < fuel → drain fuel buf sk = parseS (buf ++ sk.stream) := by
  intro fuel
  induction fuel with
  | zero => intro buf sk _ _ h; omega
  | succ f ih =>
    intro buf sk hb hk hf
    have hs := recvStep_spec buf hb sk hk
    unfold drain
    obtain ⟨hok, hlen, hcase⟩ := hs
    rcases hcase with ⟨a, b, c, d⟩ | ⟨a, b, c, d⟩ | ⟨a, b, x, rest, hx, hne⟩
    · have n1 : ¬ ((recvStep buf sk).2.2.1 < 0) := by omega
      have n2 : ¬ ((recvStep buf sk).2.2.1 > 0) := by omega
      simp only [n1, n2, if_false]
      by_cases he : (recvStep buf sk).2.1.stream = []
      · rw [if_pos he, ← c, he, List.append_nil, parseS_partial _ b]
      · rw [if_neg he, ← c]
        by_cases hse : sk.stream = []
        · rw [hse] at hlen; simp at hlen; exact absurd hlen he
        · have hd := d hse
          have hl := congrArg List.length c
          simp only [List.length_append] at hl
          exact ih _ _ b hok (by omega)
    · have n1 : ¬ ((recvStep buf sk).2.2.1 < 0) := by omega
      simp only [n1, if_false, a, if_true]
      rw [← d, parseS_complete _ _ c]
      have hl := congrArg List.length d
      simp only [List.length_append] at hl
      obtain ⟨len, body, hm, _⟩ := c
      have hm2 : 2 ≤ (recvStep buf sk).2.2.2.length := by rw [hm]; simp
      have := ih (recvStep buf sk).1 (recvStep buf sk).2.1 (by rw [b]; exact Or.inl rfl) hok (by rw [b]; simp; omega)
      rw [this, b]; simp
    · simp only [a, if_true]
      rw [b, hx, List.nil_append, parseS_badstart x rest hne]

/-- C05 (i), segmentation independence.  However the same octets are split into reads (any chunk sizes; by
`Sock.Ok` no read returns nothing while octets are still to come), the same frames are handed over
in the same order, the same close decision is taken and the same incomplete tail remains. -/
theorem segmentation_independent (buf : List Nat) (hb : PartialOk buf) (sk1 sk2 : Sock) (h1 : sk1.Ok) (h2 : sk2.Ok)
    (hs : sk1.stream = sk2.stream) (f1 f2 : Nat) (hf1 : 2 * sk1.stream.length + buf.length < f1)
    (hf2 : 2 * sk2.stream.length + buf.length < f2) : drain f1 buf sk1 = drain f2 buf sk2 := by
  rw [drain_eq_parse f1 buf sk1 hb h1 hf1, drain_eq_parse f2 buf sk2 hb h2 hf2, hs]

end Iec.Srv104
