/-
"Remains buffered until acknowledged" for the server (C06): reception, the periodic tasks and the reaping step leave the
event ring of every group as it was (same entries, order, octets; an unconfirmed entry stays unconfirmed), except the
acknowledgement path `checkSequenceNumber` -> `confirmReleased`, and that one only for the entries that the k-buffer
entries of the acknowledging connection reference.  Relation `KR R`: `KeptX R` for the ring of every group.
While a message is handled the k-buffer gains no reference (replies carry none), so the references at the start bound
every confirmation; the periodic tasks take no acknowledgement.
-/
import Iec.Lemmas.Srv104Groups
import Iec.Lemmas.MsgQueueKept
namespace Iec.Srv104
open Iec.KWindow Iec.Queues

structure KR (R : List (Nat × Nat)) (s s' : Slave) : Prop where
  kept : ∀ g, KeptX R (s.grp g).lowQ (s'.grp g).lowQ

variable {R : List (Nat × Nat)}

theorem KR.refl (s : Slave) : KR R s s := ⟨fun _ => KeptX.refl _ _⟩
theorem KR.trans {a b c : Slave} (h1 : KR R a b) (h2 : KR R b c) : KR R a c := ⟨fun g => KeptX.trans (h1.kept g) (h2.kept g)⟩
theorem KR.mono {R' : List (Nat × Nat)} (hR : ∀ r ∈ R, r ∈ R') {a b : Slave} (h : KR R a b) : KR R' a b :=
  ⟨fun g => KeptX.mono hR (h.kept g)⟩

theorem kr_foldl0 {α} (f : Slave → α → Slave) (hf : ∀ s a, KR R s (f s a)) : ∀ (l : List α) (s : Slave), KR R s (l.foldl f s) := by
  intro l
  induction l with
  | nil => intro s; exact KR.refl s
  | cons a l ih => intro s; exact KR.trans (hf s a) (ih _)

theorem QOps.kept {g g' : Group} (h : QOps False R g g') : KeptX R g.lowQ g'.lowQ := by
  induction h with
  | refl => exact .refl _ _
  | trans _ _ ih1 ih2 => exact ih1.trans ih2
  | upd u =>
    cases u with
    | fetch => exact kept_getNextWaiting _ _
    | _ => exact .refl _ _
  | confirm _ o id hm =>
    exact (kept_markConfirmed _ o id).mono fun r hr => by rw [List.mem_singleton.mp hr]; exact hm
  | rearm _ o id => exact kept_setEntryWaiting _ _ o id
  | init _ hw => exact hw.elim
  | clear _ hw => exact hw.elim

theorem kr_of_ops {s s' : Slave} (h : ∀ g, QOps False R (s.grp g) (s'.grp g)) : KR R s s' := ⟨fun g => (h g).kept⟩

theorem refs_frame {K : Caps} (i : Nat) (hs : ∀ q, K.send q → q = none) :
    Frame K i fun _ c c' => ∀ r ∈ refsOf c'.win, r ∈ refsOf c.win where
  refl _ _ _ h := h
  trans _ _ _ _ h1 h2 r h := h1 r (h2 r h)
  upd u := by
    cases u with
    | released d => exact fun r h => (List.drop_sublist d _).filterMap _ |>.subset h
    | stamped e rest hw => intro r h; rw [hw]; exact h
    | _ => exact fun _ h => h
  sendI c now q hq _ _ := by
    cases hs q hq
    have e : ∀ x : KEntry, x.qref = none → ∀ r ∈ refsOf (c.win ++ [x]), r ∈ refsOf c.win := fun x hx r h => by
      unfold refsOf at h ⊢; rw [List.filterMap_append] at h; simpa [hx] using h
    exact ⟨e _ rfl, e _ rfl⟩
  deact _ _ _ h := h
  actv _ := ⟨fun _ _ _ h => h, fun _ _ h => h⟩
  count _ _ _ h := h

theorem Steps.groups {K : Caps} {i : Nat} {s t : Slave} (st : Steps K i s t)
    (h : K.ack → (∀ q, K.send q → q = none) ∧ ∀ r ∈ refsOf (s.conn i).win, r ∈ R) (g : Nat) :
    QOps False R (s.grp g) (t.grp g) := by
  induction st with
  | refl => exact .refl _
  | tail st' a ih =>
    exact ih.trans (a.groups (fun hk r hr => (h hk).2 r ((st'.perConn (refs_frame i (h hk).1)).conn i r hr)) g)

theorem kr_handleTcpConnection (s : Slave) (i : Nat) : KR (refsOf (s.conn i).win) s (handleTcpConnection s i) := by
  rcases steps_handleTcpConnection (i := i) s with st | st
  · exact kr_of_ops (st.groups fun _ => ⟨fun _ hq => hq, fun _ hr => hr⟩)
  · exact kr_of_ops (st.groups fun _ => ⟨fun _ hq => hq.elim, fun _ hr => hr⟩)

theorem kr_periodic (s : Slave) (i : Nat) : KR R s (periodic s i) :=
  kr_of_ops ((steps_periodic s).groups fun hk => hk.elim)

theorem kr_reap (t : Slave) (j : Nat) : KR R t (reap t j) := kr_of_ops (reap_groups t j)

end Iec.Srv104
