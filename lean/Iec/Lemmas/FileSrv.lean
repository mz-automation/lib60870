import Iec.Model.FileSrv
/-
The download of the file-service theorems (Iec.Props.C20): segmentation of a section, checksum
arithmetic, composition of `run`; the procedure-following master and the server's complete reply
to it (`pump`, `pass_run`, `nacks_run`, `sections_run`, `download_run`); what that master
reassembles (`rx_sections`); the shape of the reply (`secOut_forall`, `secOut_last`).
-/
namespace Iec.FileSrv

/-- the pieces `runTask` cuts a section (from the current offset) into: at most `n` octets each -/
def chunksAux (n : Nat) : Nat → List Nat → List (List Nat)
  | 0, _ => []
  | fuel + 1, d => if d = [] then [] else d.take n :: chunksAux n fuel (d.drop n)

def chunks (n : Nat) (d : List Nat) : List (List Nat) := chunksAux n d.length d

theorem chunksAux_flatten (n : Nat) (hn : 0 < n) : ∀ (fuel : Nat) (d : List Nat), d.length ≤ fuel →
    (chunksAux n fuel d).flatten = d := by
  intro fuel d h
  fun_induction chunksAux n fuel d with
  | case1 d => exact (List.eq_nil_of_length_eq_zero (Nat.le_zero.mp h)).symm
  | case2 => rfl
  | case3 f d hd ih =>
    have hl : 0 < d.length := List.length_pos_iff.mpr hd
    rw [List.flatten_cons, ih (by simp; omega), List.take_append_drop]

theorem chunks_flatten (n : Nat) (hn : 0 < n) (d : List Nat) : (chunks n d).flatten = d :=
  chunksAux_flatten n hn d.length d (Nat.le_refl _)

theorem chunksAux_bound (n : Nat) : ∀ (fuel : Nat) (d : List Nat), ∀ c ∈ chunksAux n fuel d, c.length ≤ n := by
  intro fuel d c hc
  fun_induction chunksAux n fuel d with
  | case1 | case2 => cases hc
  | case3 f d hd ih =>
    rcases List.mem_cons.mp hc with rfl | h
    · exact List.length_take_le ..
    · exact ih h

theorem chunks_bound (n : Nat) (d : List Nat) : ∀ c ∈ chunks n d, c.length ≤ n := chunksAux_bound n _ d

theorem chunksAux_nil (n fuel : Nat) : chunksAux n fuel [] = [] := by cases fuel <;> simp [chunksAux]

theorem chunksAux_fuel (n : Nat) (hn : 0 < n) : ∀ (f1 f2 : Nat) (d : List Nat), d.length ≤ f1 → d.length ≤ f2 →
    chunksAux n f1 d = chunksAux n f2 d := by
  intro f1 f2 d h1 h2
  fun_induction chunksAux n f1 d generalizing f2 with
  | case1 d => rw [List.eq_nil_of_length_eq_zero (Nat.le_zero.mp h1)]; exact (chunksAux_nil n f2).symm
  | case2 => exact (chunksAux_nil n f2).symm
  | case3 f d hd ih =>
    have hl : 0 < d.length := List.length_pos_iff.mpr hd
    obtain ⟨g, rfl⟩ : ∃ g, f2 = g + 1 := ⟨f2 - 1, by omega⟩
    rw [chunksAux, if_neg hd, ih g (by simp; omega) (by simp; omega)]

theorem chk_append (a b : List Nat) : chk (a ++ b) = (chk a + chk b) % 256 := by
  simp [chk, List.sum_append]

theorem chk_nil : chk [] = 0 := by simp [chk]

theorem chk_lt (a : List Nat) : chk a < 256 := by simp [chk]; omega

theorem chk_from_zero (a : List Nat) : (0 + chk a) % 256 = chk a := by rw [Nat.zero_add, Nat.mod_eq_of_lt (chk_lt a)]

theorem chk_acc (c : Nat) (a b : List Nat) : ((c + chk a) % 256 + chk b) % 256 = (c + chk (a ++ b)) % 256 := by
  rw [chk_append, Nat.mod_add_mod, Nat.add_mod_mod, Nat.add_assoc]

theorem run_append (e : Env) (s : Srv) (a b : List Op) :
    run e s (a ++ b) = ((run e (run e s a).1 b).1, (run e s a).2 ++ (run e (run e s a).1 b).2) := by
  induction a generalizing s with
  | nil => simp [run]
  | cons op a ih =>
    simp only [List.cons_append, run]
    rw [ih]
    simp [List.append_assoc]

theorem run_cons (e : Env) (s : Srv) (op : Op) (ops : List Op) :
    run e s (op :: ops) = ((run e (step e s op).1 ops).1, (step e s op).2 ++ (run e (step e s op).1 ops).2) := by
  simp [run]

theorem run_nil (e : Env) (s : Srv) : run e s [] = (s, []) := rfl

theorem run_cons_eq {e : Env} {s s1 s2 : Srv} {op : Op} {ops : List Op} {o1 o2 : List Out}
    (h1 : step e s op = (s1, o1)) (h2 : run e s1 ops = (s2, o2)) : run e s (op :: ops) = (s2, o1 ++ o2) := by
  rw [run_cons, h1, h2]

theorem run_append_eq {e : Env} {s s1 s2 : Srv} {a b : List Op} {o1 o2 : List Out}
    (h1 : run e s a = (s1, o1)) (h2 : run e s1 b = (s2, o2)) : run e s (a ++ b) = (s2, o1 ++ o2) := by
  rw [run_append, h1, h2]

def secAt (f : File) (n : Nat) : List Nat := f.getD (n - 1) []

theorem sectionSize_secAt (f : File) (n : Nat) (h : 1 ≤ n) : sectionSize f ((n : Int) - 1) = (secAt f n).length := by
  unfold sectionSize secAt
  have h1 : ¬ ((n : Int) - 1 < 0) := by omega
  have h2 : ((n : Int) - 1).toNat = n - 1 := by omega
  simp only [h1, if_false, h2]

theorem segData_secAt (f : File) (n : Nat) (h : 1 ≤ n) (off k : Nat) :
    segData f ((n : Int) - 1) off k = ((secAt f n).drop off).take k := by
  unfold segData secAt
  have h1 : ¬ ((n : Int) - 1 < 0) := by omega
  have h2 : ((n : Int) - 1).toNat = n - 1 := by omega
  simp only [h1, if_false, h2]

theorem secAt_of_get? {f : File} {n : Nat} {sec : List Nat} (h : f[n - 1]? = some sec) : secAt f n = sec := by
  rw [secAt, List.getD_eq_getElem?_getD, h]; rfl

theorem secAt_of_none {f : File} {n : Nat} (h : f[n - 1]? = none) : secAt f n = [] := by
  rw [secAt, List.getD_eq_getElem?_getD, h]; rfl

theorem sectionSize_nat (f : File) (n : Nat) : sectionSize f (n : Int) = (secAt f (n + 1)).length := by
  simpa using sectionSize_secAt f (n + 1) (by omega)

/-- the length `pumpStep` gives the next segment -/
theorem segLen_eq (m : Nat) (d : List Nat) : (if d.length > m then m else d.length) = (d.take m).length := by
  rw [List.length_take]; split <;> omega

theorem no_expiry (s : Srv) (now : Nat) (h : s.lastSend = now) : s.expire now = s := by
  unfold Srv.expire
  have : ¬ (now > s.lastSend + s.timeout) := by omega
  simp [this]


/- The procedure-following master.  SCQ 1 / 2 / 6 = select file / request file / request section;
AFQ 1 = file acknowledged, 3 / 4 = section acknowledged positively / negatively (`onCallSel`, `onAck`). -/
def mSelect (e : Env) (oa : Nat) : Req :=
  { tid := 122, cot := cotFile, neg := false, ca := e.fca, oa := oa, obj := some (.callSel e.fioa e.fnof 0 1) }
def mCallFile (e : Env) (oa : Nat) : Req :=
  { tid := 122, cot := cotFile, neg := false, ca := e.fca, oa := oa, obj := some (.callSel e.fioa e.fnof 0 2) }
def mCallSection (e : Env) (oa nos : Nat) : Req :=
  { tid := 122, cot := cotFile, neg := false, ca := e.fca, oa := oa, obj := some (.callSel e.fioa e.fnof nos 6) }
def mAck (e : Env) (oa nos afq : Nat) : Req :=
  { tid := 124, cot := cotFile, neg := false, ca := e.fca, oa := oa, obj := some (.ack e.fioa e.fnof nos afq) }

/-- one task call per segment, one more for LAST SEGMENT -/
def passOps (conn now m : Nat) (sec : List Nat) : List Op :=
  List.replicate ((chunks m sec).length + 1) (Op.task conn now)

def passOut (e : Env) (conn soa n m : Nat) (sec : List Nat) : List Out :=
  (chunks m sec).map (fun d => Out.send conn soa e.fca e.fioa e.fnof (.segment n d)) ++
    [Out.send conn soa e.fca e.fioa e.fnof (.lastSegment n (chk sec))]

def nackOps (e : Env) (conn now oa n m : Nat) (sec : List Nat) : Nat → List Op
  | 0 => []
  | k + 1 => Op.asdu conn now (mAck e oa n 4) :: (passOps conn now m sec ++ nackOps e conn now oa n m sec k)

def nackOut (e : Env) (conn soa oa n m : Nat) (sec : List Nat) : Nat → List Out
  | 0 => []
  | k + 1 => Out.send conn oa e.fca e.fioa e.fnof (.sectionReady n sec.length) ::
      (passOut e conn soa n m sec ++ nackOut e conn soa oa n m sec k)

/-- facts that stay true during a download on connection `conn` at (virtual) time `now` -/
structure Sel (e : Env) (s : Srv) (conn now m soa : Nat) : Prop where
  sel : s.selected = true
  con : s.selConn = some conn
  ca : s.ca = e.fca
  ioa : s.ioa = e.fioa
  nof : s.nof = e.fnof
  seg : 0 < m
  hm : s.maxSeg = m
  hoa : s.oa = soa
  last : s.lastSend = now

theorem Sel.congr {e : Env} {s s' : Srv} {conn now m soa : Nat} (hs : Sel e s conn now m soa)
    (h1 : s'.selected = s.selected) (h2 : s'.selConn = s.selConn) (h3 : s'.ca = s.ca) (h4 : s'.ioa = s.ioa)
    (h5 : s'.nof = s.nof) (h6 : s'.maxSeg = s.maxSeg) (h7 : s'.oa = s.oa) (hl : s'.lastSend = now) :
    Sel e s' conn now m soa :=
  ⟨h1 ▸ hs.sel, h2 ▸ hs.con, h3 ▸ hs.ca, h4 ▸ hs.ioa, h5 ▸ hs.nof, hs.seg, h6 ▸ hs.hm, h7 ▸ hs.hoa, hl⟩

/-- a complete pass of section number `n` has been sent, the server waits for its acknowledgement -/
structure AfterPass (e : Env) (s : Srv) (n : Nat) (sec : List Nat) : Prop where
  st : s.st = .waitSectionAck
  no : s.secNo = n
  pos : 1 ≤ n
  data : e.file[n - 1]? = some sec
  size : s.secSize = sec.length
  off : s.secOff = sec.length
  chk : s.secChk = chk sec

/-- the server is pumping section `n` = `sec`; the octets `p` of it are sent -/
structure Pumping (e : Env) (s : Srv) (n : Nat) (sec p : List Nat) : Prop where
  st : s.st = .transmit
  no : s.secNo = n
  pos : 1 ≤ n
  data : e.file[n - 1]? = some sec
  size : s.secSize = sec.length
  off : s.secOff = p.length
  chk : s.secChk = chk p

theorem pump (e : Env) (conn now m soa n : Nat) (sec : List Nat) : ∀ (fuel : Nat) (s : Srv) (p d : List Nat),
    p ++ d = sec → d.length < fuel → Sel e s conn now m soa → Pumping e s n sec p →
    ∃ s', run e s (List.replicate ((chunksAux m fuel d).length + 1) (Op.task conn now)) =
        (s', (chunksAux m fuel d).map (fun c => Out.send conn soa e.fca e.fioa e.fnof (.segment n c)) ++
          [Out.send conn soa e.fca e.fioa e.fnof (.lastSegment n (chk sec))]) ∧
      Sel e s' conn now m soa ∧ AfterPass e s' n sec ∧ s'.fileChk = s.fileChk := by
  intro fuel s p d hsec hf hs hp
  fun_induction chunksAux m fuel d generalizing s p with
  | case1 => omega
  | case2 =>
    -- nothing left: LAST SEGMENT
    rw [List.append_nil] at hsec; subst hsec
    have h1 : step e s (.task conn now) = ({ s with lastSend := now, st := .waitSectionAck },
        [Out.send conn soa e.fca e.fioa e.fnof (.lastSegment n (chk p))]) := by
      simp [step, runTask, pumpStep, hp.st, hs.sel, hs.con, hp.size, hp.off, Srv.send, hs.ca, hs.ioa, hs.nof, hs.hoa, hp.no, hp.chk]
    refine ⟨_, (run_cons_eq h1 (run_nil e _) :), ?_⟩
    exact ⟨hs.congr rfl rfl rfl rfl rfl rfl rfl rfl, ⟨rfl, hp.no, hp.pos, hp.data, hp.size, hp.off, hp.chk⟩, rfl⟩
  | case3 f d hd ih =>
    -- one segment, then the rest of the section
    have hpos : 0 < d.length := List.length_pos_iff.mpr hd
    have hrem : s.secSize - s.secOff = d.length := by rw [hp.size, hp.off, ← hsec, List.length_append]; omega
    have hdata : segData e.file ((n : Int) - 1) s.secOff (min m d.length) = d.take m := by
      rw [segData_secAt _ _ hp.pos, secAt_of_get? hp.data, hp.off, ← hsec, List.drop_left]
      exact List.take_eq_take_iff.mpr (by simp)
    let s1 : Srv := { s with secOff := s.secOff + (d.take m).length, lastSend := now, secChk := (s.secChk + chk (d.take m)) % 256 }
    have h1 : step e s (.task conn now) = (s1, [Out.send conn soa e.fca e.fioa e.fnof (.segment n (d.take m))]) := by
      simp [step, runTask, pumpStep, hp.st, hs.sel, hs.con, hrem, hpos, hs.hm, segLen_eq, hdata, Srv.send, hs.ca, hs.ioa,
        hs.nof, hs.hoa, hp.no, s1]
    obtain ⟨s', h2, r⟩ := ih s1 (p ++ d.take m) (by rw [List.append_assoc, List.take_append_drop, hsec])
      (by have := hs.seg; rw [List.length_drop]; omega) (hs.congr rfl rfl rfl rfl rfl rfl rfl rfl)
      ⟨hp.st, hp.no, hp.pos, hp.data, hp.size, by rw [List.length_append, ← hp.off], by rw [chk_append, ← hp.chk]⟩
    exact ⟨s', (run_cons_eq h1 h2 :), r⟩

theorem pass_run (e : Env) (s : Srv) (conn now m soa n : Nat) (sec : List Nat)
    (hs : Sel e s conn now m soa) (hst : s.st = .transmit) (hno : s.secNo = n) (hpos : 1 ≤ n)
    (hdata : e.file[n - 1]? = some sec) (hsize : s.secSize = sec.length) (hoff : s.secOff = 0) (hchk : s.secChk = 0) :
    ∃ s', run e s (passOps conn now m sec) = (s', passOut e conn soa n m sec) ∧
      Sel e s' conn now m soa ∧ AfterPass e s' n sec ∧ s'.fileChk = s.fileChk := by
  have h := pump e conn now m soa n sec (sec.length + 1) s [] sec rfl (Nat.lt_succ_self _) hs
    ⟨hst, hno, hpos, hdata, hsize, hoff, hchk⟩
  rwa [chunksAux_fuel m hs.seg _ sec.length sec (Nat.le_succ _) (Nat.le_refl _)] at h

theorem nacks_run (e : Env) (conn now m soa oa n : Nat) (sec : List Nat) : ∀ (k : Nat) (s : Srv),
    Sel e s conn now m soa → AfterPass e s n sec →
    ∃ s', run e s (nackOps e conn now oa n m sec k) = (s', nackOut e conn soa oa n m sec k) ∧
      Sel e s' conn now m soa ∧ AfterPass e s' n sec ∧ s'.fileChk = s.fileChk := by
  intro k
  induction k with
  | zero => intro s hs ap; exact ⟨s, rfl, hs, ap, rfl⟩
  | succ k ih =>
    intro s hs ap
    let s1 : Srv := { s with secOff := 0, secChk := 0, lastSend := now, st := .transmit }
    have h1 : step e s (.asdu conn now (mAck e oa n 4)) =
        (s1, [Out.send conn oa e.fca e.fioa e.fnof (.sectionReady n sec.length)]) := by
      simp [step, handleAsdu, mAck, no_expiry s now hs.last, onAck, ap.st, Srv.send, hs.ca, hs.ioa, hs.nof, ap.no, ap.size, s1]
    obtain ⟨s2, h2, hs2, ap2, hf2⟩ := pass_run e s1 conn now m soa n sec (hs.congr rfl rfl rfl rfl rfl rfl rfl rfl)
      rfl ap.no ap.pos ap.data ap.size rfl rfl
    obtain ⟨s3, h3, hs3, ap3, hf3⟩ := ih s2 hs2 ap2
    exact ⟨s3, run_cons_eq h1 (run_append_eq h2 h3), hs3, ap3, hf3.trans hf2⟩


/-- the server announced section `n` (SECTION READY sent) and waits for its call -/
structure Announced (e : Env) (s : Srv) (n : Nat) (sec : List Nat) : Prop where
  st : s.st = .waitSectionCall
  no : s.secNo = n
  pos : 1 ≤ n
  data : e.file[n - 1]? = some sec
  ne : sec ≠ []
  chk0 : s.secChk = 0

/-- the master's requests for the sections `rest` (each with its number of negative acknowledgements),
the first of which has number `n` -/
def secOps (e : Env) (conn now oa m : Nat) : Nat → List (List Nat × Nat) → List Op
  | _, [] => []
  | n, (sec, k) :: rest =>
    Op.asdu conn now (mCallSection e oa n) :: (passOps conn now m sec ++ (nackOps e conn now oa n m sec k ++
      (Op.asdu conn now (mAck e oa n 3) :: secOps e conn now oa m (n + 1) rest)))

/-- what the server sends in reply; `c` is the file checksum before section `n` -/
def secOut (e : Env) (conn soa oa m : Nat) : Nat → Nat → List (List Nat × Nat) → List Out
  | _, _, [] => []
  | n, c, (sec, k) :: rest =>
    passOut e conn soa n m sec ++ (nackOut e conn soa oa n m sec k ++
      ((match rest with
        | [] => Out.send conn oa e.fca e.fioa e.fnof (.lastSection (n + 1) ((c + chk sec) % 256))
        | (nx, _) :: _ => Out.send conn oa e.fca e.fioa e.fnof (.sectionReady (n + 1) nx.length)) ::
       secOut e conn soa oa m (n + 1) ((c + chk sec) % 256) rest))

/-- the reply to the positive acknowledgement of section `n` -/
def sep (e : Env) (conn oa n c : Nat) : List (List Nat × Nat) → Out
  | [] => .send conn oa e.fca e.fioa e.fnof (.lastSection (n + 1) c)
  | (nx, _) :: _ => .send conn oa e.fca e.fioa e.fnof (.sectionReady (n + 1) nx.length)

theorem secOut_cons (e : Env) (conn soa oa m n c : Nat) (sec : List Nat) (k : Nat) (rest : List (List Nat × Nat)) :
    secOut e conn soa oa m n c ((sec, k) :: rest) =
      passOut e conn soa n m sec ++ (nackOut e conn soa oa n m sec k ++
        (sep e conn oa n ((c + chk sec) % 256) rest :: secOut e conn soa oa m (n + 1) ((c + chk sec) % 256) rest)) := by
  cases rest <;> rfl

def Between (e : Env) (s : Srv) (n : Nat) : List (List Nat × Nat) → Prop
  | [] => s.st = .waitFileAck
  | (sec, _) :: _ => Announced e s n sec

theorem ack_step (e : Env) (s : Srv) (conn now m soa oa n : Nat) (sec : List Nat) (rest : List (List Nat × Nat))
    (hs : Sel e s conn now m soa) (ap : AfterPass e s n sec) (hn : n + 1 < 256)
    (hfile : e.file.drop n = rest.map Prod.fst) (hne : ∀ p ∈ rest, p.1 ≠ []) :
    ∃ s1, step e s (.asdu conn now (mAck e oa n 3)) = (s1, [sep e conn oa n ((s.fileChk + chk sec) % 256) rest]) ∧
      Sel e s1 conn now m soa ∧ Between e s1 (n + 1) rest ∧ s1.fileChk = (s.fileChk + chk sec) % 256 := by
  have hmod : (n + 1) % 256 = n + 1 := Nat.mod_eq_of_lt hn
  have hnx : e.file[n]? = (rest.map Prod.fst)[0]? := by rw [← hfile, List.getElem?_drop]; rfl
  have hsz := sectionSize_nat e.file n
  cases rest with
  | nil =>
    rw [secAt_of_none hnx] at hsz
    refine ⟨{ s with fileChk := (s.fileChk + chk sec) % 256, secNo := n + 1, secOff := 0, lastSend := now,
                     st := .waitFileAck, secChk := 0 }, ?_, hs.congr rfl rfl rfl rfl rfl rfl rfl rfl, rfl, rfl⟩
    simp [step, handleAsdu, mAck, no_expiry s now hs.last, onAck, ap.st, ap.no, ap.chk, hmod, hsz, Srv.send,
      hs.ca, hs.ioa, hs.nof, sep]
  | cons q tl =>
    obtain ⟨nx, k⟩ := q
    have hnxne : nx ≠ [] := hne (nx, k) (by simp)
    rw [secAt_of_get? hnx] at hsz
    refine ⟨{ s with fileChk := (s.fileChk + chk sec) % 256, secNo := n + 1, secOff := 0, secSize := nx.length,
                     lastSend := now, st := .waitSectionCall, secChk := 0 }, ?_, hs.congr rfl rfl rfl rfl rfl rfl rfl rfl,
      ⟨rfl, rfl, by omega, hnx, hnxne, rfl⟩, rfl⟩
    simp [step, handleAsdu, mAck, no_expiry s now hs.last, onAck, ap.st, ap.no, ap.chk, hmod, hsz, hnxne, Srv.send,
      hs.ca, hs.ioa, hs.nof, sep]

theorem sections_between (e : Env) (conn now m soa oa : Nat) : ∀ (rest : List (List Nat × Nat)) (n : Nat) (s : Srv),
    Sel e s conn now m soa → Between e s n rest →
    e.file.drop (n - 1) = rest.map Prod.fst → (∀ p ∈ rest, p.1 ≠ []) → n + rest.length ≤ 255 →
    ∃ s', run e s (secOps e conn now oa m n rest) = (s', secOut e conn soa oa m n s.fileChk rest) ∧
      Sel e s' conn now m soa ∧ s'.st = .waitFileAck := by
  intro rest
  induction rest with
  | nil => intro n s hs hb _ _ _; exact ⟨s, rfl, hs, hb⟩
  | cons p tl ih =>
    intro n s hs an hfile hne hlen
    obtain ⟨sec, k⟩ := p
    have hdrop : e.file.drop n = tl.map Prod.fst := by
      simpa [List.tail_drop, Nat.sub_add_cancel an.pos] using congrArg List.tail hfile
    have hsz : sectionSize e.file ((n : Int) - 1) = sec.length := by rw [sectionSize_secAt _ _ an.pos, secAt_of_get? an.data]
    have hpos : 0 < sec.length := List.length_pos_iff.mpr an.ne
    let s1 : Srv := { s with secSize := sec.length, secNo := n, secOff := 0, st := .transmit }
    have h1 : step e s (.asdu conn now (mCallSection e oa n)) = (s1, []) := by
      simp [step, handleAsdu, mCallSection, no_expiry s now hs.last, onCallSel, an.st, cotFile, hs.ca, hs.ioa, an.no, hsz, hpos, s1]
    obtain ⟨s2, h2, hs2, ap2, hf2⟩ := pass_run e s1 conn now m soa n sec (hs.congr rfl rfl rfl rfl rfl rfl rfl hs.last)
      rfl rfl an.pos an.data rfl rfl an.chk0
    obtain ⟨s3, h3, hs3, ap3, hf3⟩ := nacks_run e conn now m soa oa n sec k s2 hs2 ap2
    obtain ⟨s4, h4, hs4, b4, hf4⟩ := ack_step e s3 conn now m soa oa n sec tl hs3 ap3 (by simp at hlen; omega) hdrop
      fun p hp => hne p (List.mem_cons_of_mem _ hp)
    obtain ⟨s5, h5, r⟩ := ih (n + 1) s4 hs4 b4 hdrop (fun p hp => hne p (List.mem_cons_of_mem _ hp)) (by simp at hlen; omega)
    have hfc : s3.fileChk = s.fileChk := hf3.trans hf2
    rw [hf4, hfc] at h5
    rw [hfc] at h4
    rw [secOut_cons]
    exact ⟨s5, (run_cons_eq h1 (run_append_eq h2 (run_append_eq h3 (run_cons_eq h4 h5))) :), r⟩

theorem sections_run (e : Env) (conn now m soa oa : Nat) : ∀ (rest : List (List Nat × Nat)) (n : Nat) (s : Srv)
    (sec : List Nat) (k : Nat) (tl : List (List Nat × Nat)), rest = (sec, k) :: tl →
    Sel e s conn now m soa → Announced e s n sec →
    e.file.drop (n - 1) = rest.map Prod.fst → (∀ p ∈ rest, p.1 ≠ []) → n + rest.length ≤ 255 →
    ∃ s', run e s (secOps e conn now oa m n rest) = (s', secOut e conn soa oa m n s.fileChk rest) ∧
      Sel e s' conn now m soa ∧ s'.st = .waitFileAck := by
  intro rest n s sec k tl hr hs an
  subst hr
  exact sections_between e conn now m soa oa _ n s hs an


/-- a procedure-following master fetching the offered file; `plan` = the sections of the file, each with
the number of negative acknowledgements the master answers before it accepts the section -/
def downloadOps (e : Env) (conn now oa m : Nat) (plan : List (List Nat × Nat)) : List Op :=
  Op.asdu conn now (mSelect e oa) :: Op.asdu conn now (mCallFile e oa) ::
    (secOps e conn now oa m 1 plan ++ [Op.asdu conn now (mAck e oa plan.length 1)])

def downloadOut (e : Env) (conn soa oa m : Nat) (plan : List (List Nat × Nat)) : List Out :=
  Out.getFile e.fca e.fioa e.fnof :: Out.send conn oa e.fca e.fioa e.fnof (.fileReady (fileSize e.file) true) ::
    Out.send conn oa e.fca e.fioa e.fnof (.sectionReady 1 ((plan.map Prod.fst).headD []).length) ::
      (secOut e conn soa oa m 1 0 plan ++ [Out.complete true])

theorem download_run (e : Env) (s0 : Srv) (conn now oa : Nat) (sec : List Nat) (k : Nat) (tl : List (List Nat × Nat))
    (hf : e.hasFiles = true) (hfile : ((sec, k) :: tl).map Prod.fst = e.file) (hne : ∀ p ∈ (sec, k) :: tl, p.1 ≠ [])
    (hlen : tl.length + 1 ≤ 254) (hst : s0.st = .idle) (hseg : 0 < s0.maxSeg) :
    ∃ s', run e s0 (downloadOps e conn now oa s0.maxSeg ((sec, k) :: tl)) =
        (s', downloadOut e conn s0.oa oa s0.maxSeg ((sec, k) :: tl)) ∧ s'.st = .idle ∧ s'.selected = false := by
  have hf0 : e.file[0]? = some sec := by rw [← hfile]; rfl
  have hsz0 : sectionSize e.file 0 = sec.length := by rw [← secAt_of_get? (n := 1) hf0]; exact sectionSize_nat e.file 0
  -- SELECT and CALL FILE
  let s1 : Srv := { s0 with selected := true, selConn := some conn, ioa := e.fioa, ca := e.fca, nof := e.fnof,
                            lastSend := now, st := .waitFileCall }
  let s2 : Srv := { s1 with secNo := 1, secOff := 0, secChk := 0, fileChk := 0, secSize := sec.length, lastSend := now,
                            st := .waitSectionCall }
  have h1 : step e s0 (.asdu conn now (mSelect e oa)) = (s1, [Out.getFile e.fca e.fioa e.fnof,
      Out.send conn oa e.fca e.fioa e.fnof (.fileReady (fileSize e.file) true)]) := by
    have hex : s0.expire now = s0 := by simp [Srv.expire, hst]
    simp [step, handleAsdu, mSelect, hex, onCallSel, cotFile, hst, Env.getFile, hf, Srv.send, s1]
  have h2 : step e s1 (.asdu conn now (mCallFile e oa)) =
      (s2, [Out.send conn oa e.fca e.fioa e.fnof (.sectionReady 1 sec.length)]) := by
    simp [step, handleAsdu, mCallFile, no_expiry s1 now rfl, onCallSel, cotFile, s1, s2, hsz0, Srv.send]
  obtain ⟨s3, h3, hs3, hst3⟩ := sections_between e conn now s0.maxSeg s0.oa oa ((sec, k) :: tl) 1 s2
    ⟨rfl, rfl, rfl, rfl, rfl, hseg, rfl, rfl, rfl⟩ ⟨rfl, rfl, Nat.le_refl 1, hf0, hne _ (List.mem_cons_self ..), rfl⟩
    hfile.symm hne (by simp; omega)
  -- positive file acknowledgement
  have h4 : step e s3 (.asdu conn now (mAck e oa (tl.length + 1) 1)) =
      ({ s3 with selected := false, selConn := none, st := .idle }, [Out.complete true]) := by
    simp [step, handleAsdu, mAck, no_expiry s3 now hs3.last, onAck, hst3, hs3.sel]
  exact ⟨_, run_cons_eq h1 (run_cons_eq h2 (run_append_eq h3 (run_cons_eq h4 (run_nil e _)))), rfl, rfl⟩


/-- reassembly state of a procedure-following master: octets of the accepted sections, octets of the pass
in progress, number of the section in progress -/
structure Rx where
  done : List Nat
  cur : List Nat
  curNo : Nat
  deriving Repr, DecidableEq

/-- FILE READY (positive) starts a transfer.  SECTION READY for the section in progress = the pass is
repeated (its octets are discarded); for another section = the previous one is complete.  LAST SECTION
completes the last one. -/
def rxStep (r : Rx) : Out → Rx
  | .send _ _ _ _ _ (.fileReady _ true) => ⟨[], [], 0⟩
  | .send _ _ _ _ _ (.sectionReady n _) =>
    if n = r.curNo then { r with cur := [] } else { done := r.done ++ r.cur, cur := [], curNo := n }
  | .send _ _ _ _ _ (.segment _ d) => { r with cur := r.cur ++ d }
  | .send _ _ _ _ _ (.lastSection _ _) => { r with done := r.done ++ r.cur, cur := [] }
  | _ => r

def received (outs : List Out) : List Nat := (outs.foldl rxStep ⟨[], [], 0⟩).done

theorem rx_segments (conn soa ca ioa nof n : Nat) : ∀ (cs : List (List Nat)) (dn cur : List Nat) (no : Nat),
    (cs.map (fun d => Out.send conn soa ca ioa nof (.segment n d))).foldl rxStep ⟨dn, cur, no⟩ = ⟨dn, cur ++ cs.flatten, no⟩ := by
  intro cs
  induction cs with
  | nil => intro dn cur no; simp
  | cons c cs ih => intro dn cur no; simp [rxStep, ih, List.append_assoc]

theorem rx_pass (e : Env) (conn soa n m : Nat) (hm : 0 < m) (sec dn cur : List Nat) (no : Nat) :
    (passOut e conn soa n m sec).foldl rxStep ⟨dn, cur, no⟩ = ⟨dn, cur ++ sec, no⟩ := by
  unfold passOut
  rw [List.foldl_append, rx_segments, chunks_flatten m hm]
  simp [rxStep]

theorem rx_nacks (e : Env) (conn soa oa n m : Nat) (hm : 0 < m) (sec dn : List Nat) : ∀ (k : Nat),
    (nackOut e conn soa oa n m sec k).foldl rxStep ⟨dn, sec, n⟩ = ⟨dn, sec, n⟩ := by
  intro k
  induction k with
  | zero => rfl
  | succ k ih =>
    simp only [nackOut, List.foldl_cons, List.foldl_append, rxStep, if_true]
    rw [rx_pass e conn soa n m hm, List.nil_append]
    exact ih

theorem rx_sections (e : Env) (conn soa oa m : Nat) (hm : 0 < m) : ∀ (rest : List (List Nat × Nat)) (n c : Nat) (dn : List Nat),
    (secOut e conn soa oa m n c rest).foldl rxStep ⟨dn, [], n⟩ =
      (match rest with
       | [] => ⟨dn, [], n⟩
       | _ :: _ => ⟨dn ++ (rest.map Prod.fst).flatten, [], n + rest.length - 1⟩) := by
  intro rest
  induction rest with
  | nil => intro n c dn; rfl
  | cons p tl ih =>
    intro n c dn
    obtain ⟨sec, k⟩ := p
    rw [secOut_cons, List.foldl_append, rx_pass e conn soa n m hm, List.foldl_append, List.nil_append,
      rx_nacks e conn soa oa n m hm sec dn k, List.foldl_cons]
    cases tl with
    | nil => simp [sep, rxStep, secOut]
    | cons q tl' =>
      have hne : ¬ (n + 1 = n) := by omega
      simp only [sep, rxStep, hne, if_false]
      rw [ih (n + 1)]
      simp [List.append_assoc]
      omega

theorem received_download (e : Env) (conn soa oa m : Nat) (hm : 0 < m) (p : List Nat × Nat) (tl : List (List Nat × Nat))
    (hfile : (p :: tl).map Prod.fst = e.file) :
    received (downloadOut e conn soa oa m (p :: tl)) = e.file.flatten := by
  unfold received downloadOut
  simp only [List.foldl_cons, List.foldl_append, rxStep]
  have h10 : ¬ ((1 : Nat) = 0) := by omega
  simp only [h10, if_false, List.append_nil]
  rw [rx_sections e conn soa oa m hm (p :: tl) 1 0 []]
  simp [hfile]

theorem passOut_forall {P : Out → Prop} {e : Env} {conn soa n m : Nat} {sec : List Nat}
    (seg : ∀ d, d.length ≤ m → P (.send conn soa e.fca e.fioa e.fnof (.segment n d)))
    (ls : P (.send conn soa e.fca e.fioa e.fnof (.lastSegment n (chk sec)))) : ∀ o ∈ passOut e conn soa n m sec, P o := by
  intro o ho
  rcases List.mem_append.mp ho with h | h
  · obtain ⟨d, hd, rfl⟩ := List.mem_map.mp h
    exact seg d (chunks_bound m sec d hd)
  · rw [List.mem_singleton.mp h]; exact ls

theorem nackOut_forall {P : Out → Prop} {e : Env} {conn soa oa n m : Nat} {sec : List Nat}
    (seg : ∀ d, d.length ≤ m → P (.send conn soa e.fca e.fioa e.fnof (.segment n d)))
    (ls : P (.send conn soa e.fca e.fioa e.fnof (.lastSegment n (chk sec))))
    (sr : P (.send conn oa e.fca e.fioa e.fnof (.sectionReady n sec.length))) :
    ∀ (k : Nat), ∀ o ∈ nackOut e conn soa oa n m sec k, P o
  | 0, _, ho => (List.not_mem_nil ho).elim
  | k + 1, o, ho => by
    rcases List.mem_cons.mp ho with rfl | h
    · exact sr
    · exact (List.mem_append.mp h).elim (passOut_forall seg ls o) (nackOut_forall seg ls sr k o)

theorem secOut_forall {P : Out → Prop} {e : Env} {conn soa oa m : Nat}
    (seg : ∀ j d, d.length ≤ m → P (.send conn soa e.fca e.fioa e.fnof (.segment j d)))
    (last : ∀ j c, P (.send conn oa e.fca e.fioa e.fnof (.lastSection j c))) :
    ∀ (rest : List (List Nat × Nat)) (n c : Nat),
    (∀ i, ∀ h : i < rest.length, P (.send conn soa e.fca e.fioa e.fnof (.lastSegment (n + i) (chk rest[i].1)))) →
    (∀ i, ∀ h : i < rest.length, P (.send conn oa e.fca e.fioa e.fnof (.sectionReady (n + i) rest[i].1.length))) →
    ∀ o ∈ secOut e conn soa oa m n c rest, P o
  | [], _, _, _, _, _, ho => (List.not_mem_nil ho).elim
  | (sec, k) :: tl, n, c, ls, sr, o, ho => by
    have ls0 := ls 0 (Nat.zero_lt_succ _)
    have sr0 := sr 0 (Nat.zero_lt_succ _)
    rw [secOut_cons] at ho
    simp only [List.mem_append, List.mem_cons] at ho
    rcases ho with h | h | rfl | h
    · exact passOut_forall (seg n) ls0 o h
    · exact nackOut_forall (seg n) ls0 sr0 k o h
    · cases tl with
      | nil => exact last _ _
      | cons q tl' => exact sr 1 (by simp)
    · refine secOut_forall seg last tl (n + 1) _ (fun i h => ?_) (fun i h => ?_) o h
      · have := ls (i + 1) (Nat.succ_lt_succ h); rwa [← Nat.add_assoc, Nat.add_right_comm] at this
      · have := sr (i + 1) (Nat.succ_lt_succ h); rwa [← Nat.add_assoc, Nat.add_right_comm] at this

theorem secOut_last (e : Env) (conn soa oa m : Nat) : ∀ (rest : List (List Nat × Nat)) (n c : Nat), rest ≠ [] →
    [Out.send conn oa e.fca e.fioa e.fnof (.lastSection (n + rest.length) ((c + chk (rest.map Prod.fst).flatten) % 256))] <:+
      secOut e conn soa oa m n c rest := by
  intro rest
  induction rest with
  | nil => intro n c h; exact absurd rfl h
  | cons p tl ih =>
    intro n c _
    obtain ⟨sec, k⟩ := p
    rw [secOut_cons]
    refine List.suffix_append_of_suffix (List.suffix_append_of_suffix ?_)
    cases tl with
    | nil => simp [sep, secOut]
    | cons q tl' =>
      have := ih (n + 1) ((c + chk sec) % 256) (List.cons_ne_nil _ _)
      rw [chk_acc, Nat.add_assoc, Nat.add_comm 1] at this
      exact this.trans (List.suffix_cons _ _)

theorem downloadOut_forall {P : Out → Prop} {e : Env} {conn soa oa m : Nat} {plan : List (List Nat × Nat)}
    (get : P (.getFile e.fca e.fioa e.fnof)) (ready : P (.send conn oa e.fca e.fioa e.fnof (.fileReady (fileSize e.file) true)))
    (first : P (.send conn oa e.fca e.fioa e.fnof (.sectionReady 1 ((plan.map Prod.fst).headD []).length)))
    (secs : ∀ o ∈ secOut e conn soa oa m 1 0 plan, P o) (done : P (.complete true)) :
    ∀ o ∈ downloadOut e conn soa oa m plan, P o :=
  List.forall_mem_cons.mpr ⟨get, List.forall_mem_cons.mpr ⟨ready, List.forall_mem_cons.mpr ⟨first, fun o ho =>
    (List.mem_append.mp ho).elim (secs o) fun h => List.mem_singleton.mp h ▸ done⟩⟩⟩

theorem downloadOut_last (e : Env) (conn soa oa m : Nat) (plan : List (List Nat × Nat)) (hne : plan ≠ []) :
    [Out.send conn oa e.fca e.fioa e.fnof (.lastSection (1 + plan.length) (chk (plan.map Prod.fst).flatten)), Out.complete true] <:+
      downloadOut e conn soa oa m plan := by
  obtain ⟨pre, hpre⟩ := secOut_last e conn soa oa m plan 1 0 hne
  rw [chk_from_zero] at hpre
  exact List.suffix_cons_iff.mpr (.inr (List.suffix_cons_iff.mpr (.inr (List.suffix_cons_iff.mpr (.inr ⟨pre, by rw [← hpre]; simp⟩)))))

end Iec.FileSrv
