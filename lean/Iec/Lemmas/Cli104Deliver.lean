/-
What the client hands to the application over every sequence of received messages: exactly the payloads of the
deliverable I-format APDUs (N(S) = V(R), N(R) inside the window, ASDU header complete), once each, in arrival order.
-/
import Iec.Lemmas.Cli104Vr
namespace Iec.Cli104
open Iec.KWindow Iec.Srv104

def CDeliverable (c : Cli) (buf : List Nat) : Prop := CAccepted c buf ∧ c.p.asduHdr ≤ buf.length - 6

instance (c : Cli) (buf : List Nat) : Decidable (CDeliverable c buf) := by unfold CDeliverable; infer_instance

theorem checkMessage_asdu (c : Cli) (buf : List Nat) :
    asduLogC (checkMessage c buf).1.log = asduLogC c.log ++ (if CDeliverable c buf then [buf.drop 6] else []) := by
  by_cases h : CAccepted c buf
  · rw [checkMessage_accept c buf h]
    -- with `markT2 c` left in place the unifier unfolds it when it compares the logs
    have hm := markT2_log c
    generalize markT2 c = m at hm ⊢
    by_cases hd : buf.length - 6 < c.p.asduHdr
    · rw [if_pos hd, if_neg (fun hdv : CDeliverable c buf => Nat.not_le.mpr hd hdv.2)]
      show asduLogC m.log = _
      rw [hm, List.append_nil]
    · have hdv : CDeliverable c buf := ⟨h, Nat.not_lt.mp hd⟩
      rw [if_neg hd, if_pos hdv]
      show asduLogC (m.log ++ [.asdu (buf.drop 6)]) = _
      rw [hm, asduLogC_append]; rfl
  · rw [(calm_checkMessage c buf h).asduLog, if_neg (fun hdv : CDeliverable c buf => h hdv.1), List.append_nil]

def recvRunC (c : Cli) : List (List Nat) → Cli × Bool
  | [] => (c, true)
  | m :: ms => if (checkMessage c m).2 then recvRunC (checkMessage c m).1 ms else ((checkMessage c m).1, false)

def expectedDeliveriesC (c : Cli) : List (List Nat) → List (List Nat)
  | [] => []
  | m :: ms => (if CDeliverable c m then [m.drop 6] else []) ++
      (if (checkMessage c m).2 then expectedDeliveriesC (checkMessage c m).1 ms else [])

theorem deliveries_specC : ∀ (ms : List (List Nat)) (c : Cli),
    asduLogC (recvRunC c ms).1.log = asduLogC c.log ++ expectedDeliveriesC c ms
  | [], c => (List.append_nil _).symm
  | m :: ms, c => by
    unfold recvRunC expectedDeliveriesC
    split
    · rw [deliveries_specC ms, checkMessage_asdu c m, List.append_assoc]
    · rw [checkMessage_asdu c m, List.append_nil]

end Iec.Cli104
