/-
The number of received-but-unacknowledged I-format APDUs of every connection over every operation of the server model.
Of all atoms only `count` raises it, by one and on the connection being served; the `w` test that ends the handling of
every received message brings that connection below w again - so at every tick boundary of every history fewer than w
I-format APDUs are unacknowledged (C11).
-/
import Iec.Lemmas.Srv104Hist
namespace Iec.Srv104
open Iec.KWindow Iec.Queues

abbrev CUK (c c' : Conn) : Prop := c'.unconf ≤ c.unconf
theorem CUK.refl (c : Conn) : CUK c c := Nat.le_refl _
theorem CUK.trans {a b c : Conn} (h1 : CUK a b) (h2 : CUK b c) : CUK a c := Nat.le_trans h2 h1

theorem cuk_after_set (s : Slave) (i : Nat) (c c' : Conn) (h1 : CUK c c') (h2 : CUK (s.conn i) c') :
    CUK ((s.setConn i c).conn i) c' :=
  conn_setConn_either (P := fun x => CUK x c') s i c h1 h2

abbrev UK : Slave → Slave → Prop := PerConn fun _ => CUK

theorem unconf_frame (K : Caps) (i : Nat) : Frame K i fun j c c' => j ≠ i ∨ ¬ K.count → CUK c c' where
  refl _ _ _ := CUK.refl _
  trans _ _ _ _ h1 h2 hj := (h1 hj).trans (h2 hj)
  upd u _ := by
    cases u with
    | acked => exact Nat.zero_le _
    | _ => exact CUK.refl _
  sendI _ _ _ _ _ _ := ⟨fun _ => Nat.zero_le _, fun _ => Nat.zero_le _⟩
  deact _ _ _ := CUK.refl _
  actv _ := ⟨fun _ _ _ => CUK.refl _, fun _ _ => CUK.refl _⟩
  count hc _ hj := hj.elim (absurd rfl) (absurd hc)

theorem Steps.uk {K : Caps} {i : Nat} (hc : ¬ K.count) {s t : Slave} (st : Steps K i s t) : UK s t :=
  have h := st.perConn (unconf_frame K i)
  ⟨h.p, h.len, fun j => h.conn j (.inr hc)⟩

def UInv (p : Params) (s : Slave) : Prop := s.p = p ∧ ∀ j, (s.conn j).unconf < p.w

theorem UInv.uk {p : Params} {s s' : Slave} (h : UInv p s) (hk : UK s s') : UInv p s' :=
  ⟨hk.p.trans h.1, fun j => Nat.lt_of_le_of_lt (hk.conn j) (h.2 j)⟩

theorem ackIfW_bound (s : Slave) (i : Nat) (hw : 0 < s.p.w) : ((ackIfW s i).conn i).unconf < s.p.w := by
  unfold ackIfW
  extract_lets c
  split
  · have h := ((steps_sendS (K := .quiet) (i := i) (s.setConn i { c with lastConf := some s.now, unconf := 0, t2Triggered := false })).uk
      id).conn i
    rcases conn_setConn_self s i { c with lastConf := some s.now, unconf := 0, t2Triggered := false } with e | e <;>
      rw [e] at h <;> exact Nat.lt_of_le_of_lt h hw
  · rename_i hlt
    exact Nat.lt_of_not_le hlt

theorem uinv_handleTcpConnection {p : Params} (hw : 0 < p.w) (s : Slave) (i : Nat) (h : UInv p s) :
    UInv p (handleTcpConnection s i) := by
  rcases handleTcpConnection_shape s i with st | ⟨s2, m, t, h2, h4, e⟩
  · exact h.uk ((st .quiet).uk id)
  · -- up to the `w` test the other connections count nothing; the test raises nothing and brings `i` below w
    have st : Steps .all i s t := by
      refine ((h2 _).trans ?_).trans (h4 _)
      rcases steps_handleMessage (i := i) s2 m with st | st <;> exact st.mono (Caps.le_all _)
    have k1 := st.perConn (unconf_frame .all i)
    have k2 := (steps_ackIfW (K := .quiet) (i := i) t).uk id
    have hp : t.p = p := k1.p.trans h.1
    rw [e]
    refine ⟨k2.p.trans hp, fun j => ?_⟩
    by_cases hj : j = i
    · subst hj
      exact hp ▸ ackIfW_bound t j (hp ▸ hw)
    · exact Nat.lt_of_le_of_lt (Nat.le_trans (k2.conn j) (k1.conn j (.inl hj))) (h.2 j)

/-- the invariant does not hold between a `count` and the `w` test that follows it, so a tick is taken function by
function (`p2_handleClientConnections`), not atom by atom -/
theorem uinv_apply {p : Params} (hw : 0 < p.w) (s : Slave) (op : WOp) (h : UInv p s) : UInv p (op.apply s) := by
  cases op with
  | tick =>
    exact p2_handleClientConnections (UInv p) (fun t j _ => uinv_handleTcpConnection hw t j)
      (fun t j _ ht => ht.uk ((steps_periodic t).uk id)) (fun t j _ ht => ht.uk (.reap (fun _ => CUK.refl) t j (CUK.refl _))) _
      (h.uk (.accept (fun _ => CUK.refl) s fun _ _ _ _ _ _ _ => Nat.zero_le _))
  | enqueue a => exact h.uk (.of_conns (fun _ => CUK.refl) rfl rfl)
  | restart => exact h.uk (.restart (fun _ => CUK.refl) s fun _ _ => CUK.refl _)
  | env e => exact h.uk (.env e s fun _ _ _ => CUK.refl _)

theorem run_uok (p : Params) (gs : List (String × List (Bool × List Nat))) (hw : 0 < p.w) (ops : List WOp) :
    UInv p (ops.foldl WOp.apply (create p gs)) :=
  run_inv ⟨rfl, fun j => by rw [create_conn]; exact hw⟩ (uinv_apply hw) ops

end Iec.Srv104
