/-
N(S) on the wire over every history (C03): the I-format APDUs written on a connection since it was opened carry
N(S) = 0, 1, 2, ... modulo 32768 in the order they are written, and V(S) is their number modulo 32768.
`ifr log j` counts the I-format APDUs written for slot `j` since the last OPENED event of that slot.  The invariant
follows the log one observation at a time (`ninv_step`): only `sendI` and the admission log something that some slot
counts, and they and the reaping step rewrite (isUsed, V(S)) of no slot but the one they are about.
-/
import Iec.Lemmas.Srv104Hist
namespace Iec.Srv104
open Iec.KWindow Iec.Queues

def ifrStep (j : Nat) (n : Nat) : Obs → Nat
  | .ev c w => if c = j ∧ w = "OPENED" then 0 else n
  | .tx c b => if c = j ∧ isI b then n + 1 else n
  | _ => n

def ifr (log : List Obs) (j : Nat) : Nat := log.foldl (ifrStep j) 0

theorem ifr_snoc (log : List Obs) (o : Obs) (j : Nat) : ifr (log ++ [o]) j = ifrStep j (ifr log j) o := by
  simp [ifr, List.foldl_append]

def Obs.inert (j : Nat) : Obs → Prop
  | .ev c w => ¬ (c = j ∧ w = "OPENED")
  | .tx c b => ¬ (c = j ∧ isI b)
  | _ => True

theorem ifrStep_inert (j n : Nat) (o : Obs) (h : o.inert j) : ifrStep j n o = n := by
  cases o with
  | ev c w => exact if_neg h
  | tx c b => exact if_neg h
  | asdu c a => rfl
  | reply c r => rfl

theorem ifr_append_inert (log l : List Obs) (j : Nat) (h : ∀ o ∈ l, o.inert j) : ifr (log ++ l) j = ifr log j := by
  have : ∀ n, l.foldl (ifrStep j) n = n := by
    induction l with
    | nil => exact fun _ => rfl
    | cons o l ih =>
      intro n
      rw [List.foldl_cons, ifrStep_inert j n o (h o (by simp)), ih fun x hx => h x (by simp [hx])]
  unfold ifr; rw [List.foldl_append, this]

theorem Note.inert {i : Nat} {o : Obs} (n : Note i o) (j : Nat) : o.inert j := by
  cases n with
  | reply => trivial
  | tx b hb => exact fun hc => hb hc.2

theorem ActEv.inert {o : Obs} (h : ActEv o) (j : Nat) : o.inert j := by
  cases h <;> exact fun hc => absurd hc.2 (by decide)

def NInv (s : Slave) : Prop :=
  (∀ j, (s.conn j).isUsed = true → (s.conn j).vs = ifr s.log j % 32768) ∧
  (∀ l1 c b l2, s.log = l1 ++ Obs.tx c b :: l2 → isI b → frameNS b = ifr l1 c % 32768)

theorem ninv_snoc {s t : Slave} {o : Obs} (h : NInv s) (hl : t.log = s.log ++ [o])
    (hc : ∀ j, (t.conn j).isUsed = true → (t.conn j).vs = ifrStep j (ifr s.log j) o % 32768)
    (hw : ∀ c b, o = .tx c b → isI b → frameNS b = ifr s.log c % 32768) : NInv t :=
  ⟨fun j hu => by rw [hl, ifr_snoc]; exact hc j hu, by rw [hl]; exact LogAll.snoc h.2 hw⟩

theorem ninv_step {s t : Slave} {i : Nat} {c : Conn} {o : Obs} (h : NInv s) (hi : i < s.conns.length)
    (hc : t.conns = (s.setConn i c).conns) (hl : t.log = s.log ++ [o]) (hq : ∀ j, j ≠ i → o.inert j)
    (hv : c.isUsed = true → c.vs = ifrStep i (ifr s.log i) o % 32768)
    (hw : ∀ b, o = .tx i b → isI b → frameNS b = ifr s.log i % 32768) : NInv t := by
  refine ninv_snoc h hl (fun j => ?_) (fun c' b e hI => ?_)
  · have e : t.conn j = (s.setConn i c).conn j := by unfold Slave.conn; rw [hc]
    rw [e]
    by_cases hj : j = i
    · rw [hj, conn_setConn s i c hi]; exact hv
    · rw [conn_setConn_ne s i j c hj, ifrStep_inert j _ o (hq j hj)]; exact h.1 j
  · by_cases hj : c' = i
    · rw [hj] at e ⊢; exact hw b e hI
    · exact absurd ⟨rfl, hI⟩ (e ▸ hq c' hj)

def SameVs (c c' : Conn) : Prop := c'.isUsed = c.isUsed ∧ c'.vs = c.vs

theorem ninv_inert {s t : Slave} (h : NInv s) {l : List Obs} (hl : t.log = s.log ++ l) (hq : ∀ o ∈ l, ∀ j, o.inert j)
    (hc : ∀ j, SameVs (s.conn j) (t.conn j)) : NInv t :=
  ⟨fun j hu => by rw [hl, ifr_append_inert _ _ _ fun o ho => hq o ho j, (hc j).2]; exact h.1 j ((hc j).1 ▸ hu),
    by rw [hl]; exact LogAll.append_notI h.2 fun c b hm hI => hq _ hm c ⟨rfl, hI⟩⟩

theorem ninv_same {s t : Slave} (h : NInv s) (hl : t.log = s.log) (hc : ∀ j, SameVs (s.conn j) (t.conn j)) : NInv t :=
  ninv_inert h (l := []) (by rw [hl, List.append_nil]) nofun hc

theorem ninv_sendI {s : Slave} (h : NInv s) (i : Nat) (a : List Nat) (q : Option (Nat × Nat))
    (hu : (s.conn i).isUsed = true) : NInv (sendI s i a q) := by
  rcases sendI_cases s i a q with e | e <;> rw [e]
  · have k : PerConn (fun _ => SameVs) s (s.setConn i ((s.conn i).unsent s.now q)) :=
      .of_setConn (fun _ _ => ⟨rfl, rfl⟩) rfl rfl ⟨rfl, rfl⟩
    exact ninv_same h rfl k.conn
  · have hvs := h.1 i hu
    obtain ⟨_, _, hc1, hc2, _⟩ := seqCodec (s.conn i).vs (by rw [hvs]; exact Nat.mod_lt _ (by decide))
    have hI : isI (iFrame (s.conn i) a) := by unfold isI iFrame; simpa using hc1
    have hns : frameNS (iFrame (s.conn i) a) = (s.conn i).vs := by unfold frameNS iFrame; simpa using hc2
    refine ninv_step h (lt_of_used s i hu) rfl rfl (fun j hj hc => hj hc.1.symm) (fun _ => ?_) (fun b e _ => ?_)
    · show ((s.conn i).vs + 1) % 32768 = _
      simp only [ifrStep, hI, and_self, if_true]
      rw [hvs]; omega
    · cases e; rw [hns, hvs]

theorem sameVs_frame (K : Caps) (i : Nat) (hs : ∀ q, ¬ K.send q) : Frame K i fun _ => SameVs where
  refl _ _ := ⟨rfl, rfl⟩
  trans _ _ _ _ h1 h2 := ⟨h2.1.trans h1.1, h2.2.trans h1.2⟩
  upd u := by cases u <;> exact ⟨rfl, rfl⟩
  sendI _ _ q hq := absurd hq (hs q)
  deact _ _ := ⟨rfl, rfl⟩
  actv _ := ⟨fun _ _ => ⟨rfl, rfl⟩, fun _ => ⟨rfl, rfl⟩⟩
  count _ _ := ⟨rfl, rfl⟩

theorem ninv_atom {K : Caps} {i : Nat} {s t : Slave} (hu : (s.conn i).isUsed = true) (h : NInv s) (a : Atom K i s t) :
    NInv t := by
  rcases a.send_or with ⟨b, q, rfl⟩ | a
  · exact ninv_sendI h i b q hu
  · have hc := (a.perConn (sameVs_frame _ i fun _ => id)).conn
    rcases a.log_cases with e | ⟨_, l, e, hl⟩ | ⟨o, n, e⟩ | ⟨b, _, e⟩ | ⟨_, _, hq, _⟩
    · exact ninv_same h e hc
    · exact ninv_inert h e (fun o ho => (hl o ho).inert) hc
    · exact ninv_inert h e (List.forall_mem_singleton.2 n.inert) hc
    · exact ninv_inert h e (List.forall_mem_singleton.2 fun _ => trivial) hc
    · exact hq.elim

structure NR (s s' : Slave) : Prop where
  len : s'.conns.length = s.conns.length
  used : ∀ j, (s'.conn j).isUsed = (s.conn j).isUsed
  inv : NInv s → NInv s'

theorem nr_resetUnconfirmed (s : Slave) (j : Nat) : NR s (resetUnconfirmed s j) := by
  obtain ⟨gs, e⟩ := resetUnconfirmed_eq s j
  rw [e]; exact ⟨rfl, fun _ => rfl, fun h => ninv_same h rfl fun _ => ⟨rfl, rfl⟩⟩

theorem ninv_reap (t : Slave) (j : Nat) (hu : (t.conn j).isUsed = true) (h : NInv t) : NInv (reap t j) :=
  ninv_step h (lt_of_used t j hu) (reap_conns t j) (reap_log t j) (fun _ _ hc => by simp at hc) (fun hu' => by simp at hu')
    (fun _ e _ => by simp at e)

theorem ninv_openSlot (t : Slave) (i : Nat) (sk : Sock) (g : Nat) (hi : i < t.conns.length) (h : NInv t) :
    NInv (openSlot t i sk g) :=
  ninv_step h hi (openSlot_conns t i sk g hi) (openSlot_log t i sk g hi) (fun j hj hc => hj hc.1.symm)
    (fun _ => by simp [ifrStep, Conn.opened]) (fun _ e _ => by simp at e)

theorem run_ninv (p : Params) (gs : List (String × List (Bool × List Nat))) (ops : List LOp) :
    NInv (ops.foldl LOp.apply (create p gs)) := by
  have h0 : NInv (create p gs) := by
    refine ⟨fun j hu => ?_, fun l1 c b l2 hs _ => ?_⟩
    · rw [create_conn] at hu; exact Bool.noConfusion hu
    · have : (create p gs).log = [] := by unfold create; rfl
      rw [this] at hs
      cases l1 <;> simp at hs
  refine run_inv_L h0 (fun s op h => ?_) ops
  · cases op with
    | tick =>
      exact tick_inv (fun _ _ _ hu ht a => ninv_atom hu ht a) ninv_reap (fun _ _ _ ht => ht)
        (fun t i sk g hi _ ht => ninv_openSlot t i sk g hi ht) s h
    | enqueue a => exact ninv_same h rfl fun _ => ⟨rfl, rfl⟩
    | env e => exact ninv_same h (e.log s) (PerConn.env (C := fun _ => SameVs) e s fun _ _ _ => ⟨rfl, rfl⟩).conn

end Iec.Srv104
