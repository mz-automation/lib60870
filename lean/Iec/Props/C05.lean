import Iec.Lemmas.Srv104
import Iec.Model.Cli104
import Iec.Lemmas.Srv104NoAsdu
import Iec.Lemmas.Cli104Deliver
/-
C05 — Received I-frames delivered exactly once, in order, for any TCP segmentation.

Statement (properties.jsonl): while data transfer is enabled, an I-format APDU received on
a CS104 connection is handed to the application exactly once and in arrival order iff its
N(S) equals the number of I-format APDUs accepted so far (mod 32768); any other N(S) closes
the connection without delivering; the outcome does not depend on how the TCP byte stream
is split into reads.

Model: `Iec.Srv104.recvStep` is `receiveMessage` (cs104_slave.c:1756-1809 after the repair of
the length-octet case; cs104_connection.c:540-600 is the same function) over a socket that
hands out octets chunk by chunk, never across a chunk boundary; `drain` is the connection
loop calling it until the input is used up; `handleI` is the I-format branch of
`handleMessage`.  Theorems are for every octet stream, every chunking (any sizes, any
number of empty polls), every receive-buffer state, every connection state.  Over every sequence of received messages:
`delivered_exactly_once_in_order` (`Lemmas/Srv104NoAsdu.lean`).  Client role (section Client): the same delivery rule in
`checkMessage` of cs104_connection.c; reassembly is the same `recvStep`, used by the client model.
-/
namespace Iec.Props.C05
open Iec.Srv104 Iec.KWindow

/-- (i) segmentation independence — the loop's result is a function of the octet stream:
it equals the stream specification `parseS` (frames in order, close decision, incomplete
tail) whatever the chunking. -/
theorem loop_is_stream_function (fuel : Nat) (buf : List Nat) (sk : Sock) (hb : PartialOk buf) (hk : sk.Ok)
    (hf : 2 * sk.stream.length + buf.length < fuel) : drain fuel buf sk = parseS (buf ++ sk.stream) :=
  drain_eq_parse fuel buf sk hb hk hf

theorem segmentation_independence (buf : List Nat) (hb : PartialOk buf) (sk1 sk2 : Sock) (h1 : sk1.Ok) (h2 : sk2.Ok)
    (hs : sk1.stream = sk2.stream) (f1 f2 : Nat) (hf1 : 2 * sk1.stream.length + buf.length < f1)
    (hf2 : 2 * sk2.stream.length + buf.length < f2) : drain f1 buf sk1 = drain f2 buf sk2 :=
  segmentation_independent buf hb sk1 sk2 h1 h2 hs f1 f2 hf1 hf2

/-- one call never loses or invents octets, and leaves a legal partial frame behind -/
theorem one_call (buf : List Nat) (hb : PartialOk buf) (sk : Sock) (h : sk.Ok) : StepPost buf sk (recvStep buf sk) :=
  recvStep_spec buf hb sk h

/-- (ii) delivery iff N(S) = V(R) (plus the N(R) and minimum-length checks), exactly once;
otherwise no delivery and the connection is closed (`false`). -/
theorem delivery (s : Slave) (i : Nat) (hi : i < s.conns.length) (buf : List Nat) (h7 : 7 ≤ buf.length)
    (hst : (s.conn i).state = 1) :
    (IAccept s i buf →
      (handleI s i buf).2 = true ∧
      ∃ l, (handleI s i buf).1.log = s.log ++ (.asdu i (buf.drop 6)) :: l ∧ ∀ o ∈ l, o.isAsdu = false) ∧
    (¬ IAccept s i buf → (handleI s i buf).2 = false ∧ (handleI s i buf).1.log = s.log) :=
  iframe_delivery s i hi buf h7 hst

/-- an I-format APDU on a connection that is not started is never delivered and closes it -/
theorem not_started_closes (s : Slave) (i : Nat) (buf : List Nat) (hst : (s.conn i).state ≠ 1) :
    handleI s i buf = (s, false) := by
  unfold handleI
  by_cases h : buf.length < 7
  · exact if_pos h
  · exact (if_neg h).trans (if_pos (by simpa using hst))

/-- non-vacuity: the same STARTDT act + TESTFR act octets in three different chunkings -/
example :
    let bytes := [0x68, 4, 7, 0, 0, 0, 0x68, 4, 0x43, 0, 0, 0]
    let a : Sock := { chunks := [bytes] }
    let b : Sock := { chunks := bytes.map fun x => [x] }
    let c : Sock := { chunks := [[0x68], [4, 7, 0, 0, 0, 0x68], [4, 0x43, 0, 0], [0]] }
    drain 40 [] a = drain 40 [] b ∧ drain 40 [] b = drain 40 [] c ∧
    (drain 40 [] a).1 = [[0x68, 4, 7, 0, 0, 0], [0x68, 4, 0x43, 0, 0, 0]] := by decide

/-- Exactly once, in arrival order, iff deliverable - over every history of received messages.  Take any sequence of
messages (I-, S-, U-format, well-formed or not) handled on connection `i` until one of them closes it. What the
application has been handed (the `asdu` observations of the log, in order) is what it had been handed before followed by
exactly the payloads of the deliverable I-format APDUs - well framed, connection STARTED at that moment, N(S) = V(R)
(= number of I-format APDUs accepted so far, C03 `nr_is_accepted_count`), N(R) inside the window, ASDU header complete -
once each, in arrival order; nothing is handed over for any other message, and nothing after the closing one. With
`segmentation_independence` (the messages are the frames of the octet stream whatever the chunking) this is the property
for every octet stream and every segmentation. -/
theorem delivered_exactly_once_in_order (s : Slave) (i : Nat) (hi : i < s.conns.length) (ms : List (List Nat)) :
    asduLog (recvRun s i ms).1.log = asduLog s.log ++ (expectedDeliveries s i ms).map (fun a => (i, a)) :=
  deliveries_spec ms s i hi

/-- "iff its N(S) equals the number of I-format APDUs accepted so far".  On a connection whose V(R) was 0 (just opened),
after ANY sequence of received messages `ms`, the next message `m` is deliverable - and then handed over exactly once,
`delivered_exactly_once_in_order` - exactly when it is a well-framed I-format APDU on a started connection whose N(S) equals
the number of I-format APDUs accepted so far modulo 32768 (C03 `vr_is_start_plus_accepted`), its N(R) lies in the window and the
ASDU header is complete. -/
theorem deliverable_iff_ns_is_accepted_count (s : Slave) (i : Nat) (hi : i < s.conns.length) (ms : List (List Nat)) (m : List Nat)
    (h0 : (s.conn i).vr = 0) :
    Deliverable (recvAll s i ms) i m ↔
      (m.getD 0 0 = 0x68 ∧ m.getD 1 0 = m.length - 2 ∧ m.getD 2 0 &&& 1 = 0 ∧ 7 ≤ m.length ∧
        ((recvAll s i ms).conn i).state = 1 ∧
        frameNS m = acceptedCount s i ms % 32768 ∧
        Iec.KWindow.valid ((recvAll s i ms).conn i).vs ((recvAll s i ms).conn i).win (frameNR m) = true ∧
        (recvAll s i ms).p.asduHdr ≤ m.length - 6) := by
  have hv := vr_counts_accepted ms s i hi (by rw [h0]; decide)
  rw [h0, Nat.zero_add] at hv
  unfold Deliverable IAccept
  rw [hv]

/-- a first message with a wrong N(S) that closes the connection (as an I-format APDU on a started connection does,
`delivery`): nothing of it or after it is delivered -/
theorem wrong_ns_delivers_nothing (s : Slave) (i : Nat) (hi : i < s.conns.length) (m : List Nat) (ms : List (List Nat))
    (hns : frameNS m ≠ (s.conn i).vr) (hclose : (handleMessage s i m).2 = false) :
    asduLog (recvRun s i (m :: ms)).1.log = asduLog s.log := by
  rw [delivered_exactly_once_in_order s i hi]
  have hnd : ¬ Deliverable s i m := fun h => hns h.2.2.2.2.2.1
  simp [expectedDeliveries, hnd, hclose]

/-- non-vacuity on a concrete history: two in-sequence I-format APDUs (a TESTFR act in between), then one with N(S) = 5
instead of 2 - exactly the first two payloads are delivered, the third closes the connection, the fourth is not looked at -/
def demoP5 : Params := { k := 12, w := 8, t0 := 10, t1 := 15, t2 := 10, t3 := 20, mode := 0, maxOpen := 0, lowQ := 4, highQ := 4, asduHdr := 6, replies := 0, nSlots := 1 }
def demoS5 : Slave := { (create demoP5 []) with conns := [{ isUsed := true, isRunning := true, state := 1, maxSent := 12 }] }
def demoI (ns : Nat) (x : Nat) : List Nat := [0x68, 14, ns * 2, 0, 0, 0, 1, 1, 3, 0, 1, 0, x, 0, 0, 1]
example : expectedDeliveries demoS5 0 [demoI 0 7, [0x68, 4, 0x43, 0, 0, 0], demoI 1 8, demoI 5 9, demoI 2 10] = [(demoI 0 7).drop 6, (demoI 1 8).drop 6] ∧
  (recvRun demoS5 0 [demoI 0 7, [0x68, 4, 0x43, 0, 0, 0], demoI 1 8, demoI 5 9, demoI 2 10]).2 = false := by decide

section Client
open Iec.Cli104 Iec.KWindow

def CliAccept (c : Cli) (buf : List Nat) : Prop :=
  (buf.getD 3 0 * 0x100 + (buf.getD 2 0 &&& 0xfe)) / 2 = c.vr ∧
  (checkSeq c.vs c.win ((buf.getD 5 0 * 0x100 + (buf.getD 4 0 &&& 0xfe)) / 2)).1 = true ∧
  c.p.asduHdr ≤ buf.length - 6

/-- Client: an I-format APDU is handed to the application exactly once iff N(S) = V(R) (and N(R) is inside the
window and the ASDU header is complete); then V(R) advances by one modulo 32768; otherwise nothing is delivered
and the connection is closed. -/
theorem client_delivery (c : Cli) (buf : List Nat) (h7 : 7 ≤ buf.length) (hI : buf.getD 2 0 &&& 1 = 0) :
    (CliAccept c buf →
      (checkMessage c buf).2 = true ∧ (checkMessage c buf).1.vr = (c.vr + 1) % 32768 ∧
      (checkMessage c buf).1.log = c.log ++ [.asdu (buf.drop 6)]) ∧
    (¬ CliAccept c buf → (checkMessage c buf).2 = false ∧ (checkMessage c buf).1.log = c.log) := by
  -- `CliAccept` spells out `frameNS`, `frameNR` and tests `checkSeq`, `CAccepted` its acceptance test `valid`
  constructor
  · rintro ⟨h1, h2, h3⟩
    have ha : CAccepted c buf := ⟨h7, hI, h1, (checkSeq_fst _ _ _).symm.trans h2⟩
    rw [checkMessage_accept c buf ha, if_neg (Nat.not_lt.mpr h3)]
    -- with `markT2 c` left in place the unifier unfolds it when it compares the fields
    have hvr := markT2_vr c
    have hlog := markT2_log c
    generalize markT2 c = m at hvr hlog ⊢
    exact ⟨rfl, by show (m.vr + 1) % 32768 = _; rw [hvr], by show m.log ++ _ = _; rw [hlog]⟩
  · intro hna
    by_cases ha : CAccepted c buf
    · rw [checkMessage_accept c buf ha,
        if_pos (Nat.lt_of_not_le fun h3 => hna ⟨ha.2.2.1, (checkSeq_fst _ _ _).trans ha.2.2.2, h3⟩)]
      have hlog := markT2_log c
      generalize markT2 c = m at hlog ⊢
      exact ⟨rfl, hlog⟩
    · rw [checkMessage_I_reject c buf (by omega) hI ha]
      exact ⟨rfl, markT2_log c⟩

/-- a frame shorter than the six octets of the APCI closes the client connection (no stale control octet
is interpreted; repaired behaviour, fix 448a2c2) -/
theorem client_short_closes (c : Cli) (buf : List Nat) (h : buf.length < 6) : checkMessage c buf = (c, false) := by
  rw [checkMessage_eq, if_pos h]

/-- Client: exactly once, in arrival order, iff deliverable - over every sequence of received messages (up to the one
that closes the connection): the `asdu` observations are what they were followed by exactly the payloads of the I-format
APDUs with N(S) = V(R), N(R) inside the window and a complete ASDU header, once each, in arrival order -/
theorem client_delivered_exactly_once_in_order (c : Cli) (ms : List (List Nat)) :
    asduLogC (recvRunC c ms).1.log = asduLogC c.log ++ expectedDeliveriesC c ms :=
  deliveries_specC ms c

/-- client: deliverable exactly when N(S) equals the number of I-format APDUs accepted so far (V(R) was 0 when the connection
was opened), N(R) lies in the window and the ASDU header is complete -/
theorem client_deliverable_iff_ns_is_accepted_count (c : Cli) (ms : List (List Nat)) (m : List Nat) (h0 : c.vr = 0) :
    CDeliverable (recvAllC c ms) m ↔
      ((7 ≤ m.length ∧ m.getD 2 0 &&& 1 = 0 ∧ Iec.Srv104.frameNS m = acceptedCountC c ms % 32768 ∧
        valid (recvAllC c ms).vs (recvAllC c ms).win (Iec.Srv104.frameNR m) = true) ∧
        (recvAllC c ms).p.asduHdr ≤ m.length - 6) := by
  have hv := vr_counts_acceptedC ms c (by rw [h0]; decide)
  rw [h0, Nat.zero_add] at hv
  unfold CDeliverable CAccepted
  rw [hv]

end Client

end Iec.Props.C05
