import Iec.Lemmas.Asdu
import Iec.Props.C01
import Iec.Gen.TypeSizes
/-
C02 — Parsing untrusted ASDU bytes is total, memory-safe and exact about truncation.

Statement (properties.jsonl): for any byte string handed to the library as a received
ASDU, under any address-size configuration, reading the header and requesting any
element index never reads outside the supplied bytes and never crashes; an object is
returned for every index whose encoding lies completely inside the supplied bytes, and
no object is ever returned for an element not completely contained in them; unknown
type ids always yield none.

What the theorems carry.  The model's parser is total by construction (it is a Lean
function) and touches the input only through `List.take` / `List.drop`; the theorems
below state exactness: `getElement` answers `some` iff the octet range of the
requested element, computed exactly as `CS101_ASDU_getElementEx` computes it, lies
inside the payload - for every byte string of every length, every index, every size
configuration (no bound), plus `fromBuffer`'s header test and the unknown-type case.
That the C code performs no read outside the supplied octets is not a statement about
the model: it is tied to the code by the correspondence run, which executes every parse
on an exactly-sized heap block under ASan/UBSan (an over-read aborts the run and is
reported with the last operation line) and compares acceptance and decoded members
with the model for every truncation length of valid ASDUs of all 67 types.
-/
namespace Iec.Props.C02
open Iec.Layout Iec.Asdu

/-- `<Type>_getFromBuffer` returns an object exactly when start + (IOA) + size fits -/
theorem decodeObj_isSome (p : Params) (e : TypeEntry) (hn : NoSeg e.fields) (payload : List Nat)
    (start : Nat) (w : Bool) :
    (decodeObj p e payload start w).isSome = true ↔
      start + (if w then p.sizeOfIOA else 0) + fixedSize e.fields ≤ payload.length := by
  unfold decodeObj
  cases w <;> simp only [Bool.false_eq_true, if_false, if_true] <;> split <;>
    simp [decodeFields_isSome _ hn] <;> omega

/-- first octet (relative to the payload) after element `i`, as `CS101_ASDU_getElementEx`
computes it from the type's category, the SQ bit and the address size -/
def elemEnd (a : Asdu) (e : TypeEntry) (i : Nat) : Nat :=
  let sz := fixedSize e.fields
  match e.cat with
  | .seq => if a.isSequence then a.p.sizeOfIOA + i * sz + sz else i * (a.p.sizeOfIOA + sz) + a.p.sizeOfIOA + sz
  | .noseq => i * (a.p.sizeOfIOA + sz) + a.p.sizeOfIOA + sz
  | .single => a.p.sizeOfIOA + sz

/-- C02, exactness: for every ASDU byte string, every index and every fixed-size type:
an object is returned iff its octets `[.., elemEnd)` are all present. -/
theorem getElement_exact (a : Asdu) (e : TypeEntry) (hl : lookup a.typeId = some e) (hn : NoSeg e.fields)
    (i : Nat) : (a.getElement i).isSome = true ↔ elemEnd a e i ≤ a.payload.length := by
  unfold Asdu.getElement elemEnd
  simp only [hl]
  cases e.cat with
  | seq =>
    simp only
    cases a.isSequence with
    | true =>
      simp only [if_true, Option.isSome_map, decodeObj_isSome _ _ hn, Bool.false_eq_true, if_false]
      omega
    | false => simp only [Bool.false_eq_true, if_false, decodeObj_isSome _ _ hn, if_true]
  | noseq => simp only [decodeObj_isSome _ _ hn, if_true]
  | single => simp only [decodeObj_isSome _ _ hn, if_true]; omega

/-- the only variable-length type (F_SG_NA_1): an object is returned iff the four fixed
octets and the `los` data octets announced by the length octet are all present -/
theorem getElement_segment (a : Asdu) (hl : a.typeId = 125) (i : Nat) :
    (a.getElement i).isSome = true ↔
      (a.p.sizeOfIOA + 4 ≤ a.payload.length ∧
        a.p.sizeOfIOA + 4 + (a.payload.getD (a.p.sizeOfIOA + 3) 0) ≤ a.payload.length) := by
  have hl : lookup a.typeId = some ⟨125, "F_SG_NA_1", .single, [.le 2, .le 1] ++ [.seg], 0⟩ := by rw [hl]; rfl
  have h3 : fixedSize [.le 2, .le 1] = 3 := rfl
  have h4 : fixedSize ([.le 2, .le 1] ++ [.seg]) = 4 := rfl
  unfold Asdu.getElement
  simp only [hl, decodeObj, List.drop_zero, if_true, h4]
  split
  · simp; omega
  · rw [Option.isSome_map, decodeFields_isSome_seg _ rfl, getD_drop, List.length_drop, h3]; omega

/-- unknown type ids always yield none, whatever the payload and index -/
theorem unknown_type_none (a : Asdu) (h : lookup a.typeId = none) (i : Nat) : a.getElement i = none := by
  unfold Asdu.getElement; simp [h]

theorem known_ids : ∀ t, t < 256 → ((lookup t).isSome = true ↔ t ∈ typeTable.map (·.typeId)) := by
  intro t _
  simp only [lookup, List.find?_isSome, List.mem_map, beq_iff_eq]

/-- the header test of `CS101_ASDU_createFromBuffer` -/
theorem fromBuffer_exact (p : Params) (msg : List Nat) :
    (fromBuffer p msg).isSome = true ↔ p.hdrLen ≤ msg.length := by
  unfold fromBuffer
  by_cases h : msg.length < p.hdrLen
  · rw [if_pos h]; simp; omega
  · rw [if_neg h]; simp; omega

/-- every table entry is fixed-size or is type 125, so `getElement_exact` covers 66 of the 67
types and `getElement_segment` the remaining one -/
theorem coverage : ∀ e ∈ typeTable, noSeg e.fields = true ∨ e.typeId = 125 := by decide

/-- non-vacuity: a truncated SQ=1 M_SP_NA_1 (type 1, two elements announced, one present) -/
example : let a : Asdu := ⟨⟨2, 2, 3, 249⟩, [1, 0x82, 3, 0, 1, 0, 100, 0, 0, 0x11]⟩
    a.getElement 0 = some (100, [1, 0x10]) ∧ a.getElement 1 = none := by decide

/-- One row extracted from cs101_information_objects.c agrees with the model's table.  The exception for type 107:
the sequence-branch guard of C_TS_TA_1 in the source is 2 although 9 octets are written; that branch cannot be reached
through the public API (the type's object address is fixed at 0 and a second element of a sequence is refused by the
address continuity test first); recorded as an observation in DESIGN.md. -/
def SizeOk (x : Iec.Gen.SrcSize) : Bool :=
  match lookup x.typeId with
  | none => false
  | some e =>
    x.name == e.name && x.decMin == fixedSize e.fields && x.encIoa == fixedSize e.fields + e.guardExtra &&
    (x.encSeq == x.encIoa || x.typeId == 107) && x.encVar == !(noSeg e.fields) && x.decSeqCond == (e.cat == .seq)

/-- Every size constant in the current C source of the encoders and decoders is the one the model's layout table
gives, for all 67 types; `Iec.Gen.srcSizes` is regenerated from /repo by translate/type_sizes.py before this file is
compiled, so an edited constant in the source makes this proof fail -/
theorem source_sizes_match_table :
    Iec.Gen.srcSizes.all SizeOk = true ∧ Iec.Gen.srcSizes.map (·.typeId) = typeTable.map (·.typeId) := by
  decide +kernel

end Iec.Props.C02
