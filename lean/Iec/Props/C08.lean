import Iec.Props.C07
import Iec.Lemmas.Srv104OneStarted
/-
C08 — Redundancy groups: one active connection per group, correct admission.

Statement (properties.jsonl): at most one connection per redundancy group is started - the
one that most recently sent STARTDT act - and only it receives that group's events; in
connection-is-group mode connections are independent; an incoming connection is attached
to the group that lists its address, otherwise to the catch-all group, otherwise it is not
admitted; not admitted either when the request callback returns false or the open
connection limit is reached; each group sees every enqueued event.

Theorems on the server model: `activate_exclusive` (after STARTDT act on connection i every
other used connection of the single group / of the same group is not started and i is),
`match_listed_first` / `match_catch_all` (group selection; no group when there is no catch-all either),
`limit_refuses` / `callback_refuses` (admission), `enqueue_all_groups` (fan-out).
Address texts are modelled for dotted IPv4 and full eight-group IPv6 only ("::"-compressed
text is outside the model: the C parser leaves octets unwritten for it - recorded in
DESIGN.md).  The global invariant is proved as one theorem over every history:
`one_started_per_group` - from a freshly created server, after any sequence of ticks (each = accept + reaping +
receive / dispatch of every message kind + periodic tasks of every connection), enqueues, stop/start cycles and
environment events, at most one connection per redundancy group is started (`Lemmas/Srv104OneStarted.lean`: no atom of
the model other than `activate` makes a connection started - `shrink_frame`, `inv_atom` -; `inv_activate`,
`inv_handleClientConnections`, `run_oneStarted`).  The harness oracle checks the same on the real structures after every operation.
-/
namespace Iec.Props.C08
open Iec.Srv104 Iec.Props.C07

/-- one active connection per group: after `CS104_Slave_activate` on connection i, i is
started and every other used connection of the same group (all of them in single-group mode)
is not (proof in `Lemmas/Srv104Activate.lean`) -/
theorem activate_exclusive (s : Slave) (i : Nat) (hi : i < s.conns.length) (j : Nat) (hj : j < s.conns.length)
    (hne : j ≠ i) (hu : (s.conn j).isUsed = true)
    (hg : s.p.mode = 0 ∨ (s.p.mode = 2 ∧ (s.conn j).group = (s.conn i).group)) :
    ((activate s i).conn i).state = 1 ∧ ((activate s i).conn j).state = 2 :=
  Iec.Srv104.activate_exclusive s i hi j hj hne hu hg

/-- admission is refused while the open-connection limit is reached -/
theorem limit_refuses (s : Slave) (hl : 1 ≤ s.p.maxOpen) (hfull : (s.p.maxOpen : Int) ≤ s.openConnections) :
    accept s = s := by
  unfold accept
  have : ¬ ((decide (s.p.maxOpen < 1) || decide (s.openConnections < (s.p.maxOpen : Int))) = true) := by
    simp only [Bool.or_eq_true, decide_eq_true_eq]; omega
  rw [if_neg this]

/-- … and when the connection-request callback answers false: the socket is dropped, no slot is used -/
theorem callback_refuses (s : Slave) (sk : Sock) (rest : List Sock) (as : List Bool)
    (hp : s.pending = sk :: rest) (ha : s.acceptAnswers = false :: as)
    (hroom : s.p.maxOpen < 1 ∨ s.openConnections < (s.p.maxOpen : Int)) :
    accept s = { s with pending := rest, acceptAnswers := as } := by
  unfold accept
  have : (decide (s.p.maxOpen < 1) || decide (s.openConnections < (s.p.maxOpen : Int))) = true := by
    simp only [Bool.or_eq_true, decide_eq_true_eq]; exact hroom
  rw [if_pos this]
  simp [hp, ha]

/-- group selection: the first group that lists the address wins -/
theorem match_listed_first (s : Slave) (ip : String) (g : Nat)
    (h : (List.range s.groups.length).find? (fun g => (s.grp g).allowed.any (· == parseIp ip)) = some g) :
    matchGroup s ip = some g := by
  unfold matchGroup; simp [h]

/-- otherwise the (last) catch-all group, otherwise no group (the connection is not admitted) -/
theorem match_catch_all (s : Slave) (ip : String)
    (h : (List.range s.groups.length).find? (fun g => (s.grp g).allowed.any (· == parseIp ip)) = none) :
    matchGroup s ip = ((List.range s.groups.length).filter fun g => (s.grp g).allowed.isEmpty).getLast? := by
  unfold matchGroup; simp [h]

/-- every group's queue receives every enqueued event -/
theorem enqueue_all_groups (s : Slave) (asdu : List Nat) (g : Nat) (hg : g < s.groups.length) :
    ((enqueue s asdu).grp g).lowQ = (s.grp g).lowQ.enqueue asdu := by
  unfold enqueue Slave.grp
  simp [List.getD_eq_getElem?_getD, hg]

/-- At any time at most one connection per redundancy group is started: for every configuration, every list of
groups and every sequence of operations (ticks - i.e. admission, reaping, every received message on every connection,
timeouts, transmissions -, enqueues, stop/start, socket / clock events), no two distinct used connections of the same
group (all connections in single-group mode; never any two in connection-is-group mode, where each connection is its
own group) are both STARTED -/
theorem one_started_per_group (p : Params) (gs : List (String × List (Bool × List Nat))) (ops : List SOp) :
    OneStarted (ops.foldl SOp.apply (create p gs)) := run_oneStarted p gs ops

/-- the STARTDT step itself: whatever was started in the group before, afterwards only the activated connection is -/
theorem startdt_keeps_one_started (s : Slave) (i : Nat) (buf : List Nat) (h : OneStarted s) :
    OneStarted (handleMessage s i buf).1 := inv_handleMessage s i buf h

/-- the invariant is not vacuous: a state with two started connections in single-group mode violates it -/
def badParams : Params := { (default : Params) with mode := 0 }
def badState : Slave := { p := badParams, now := 0, conns := [{ isUsed := true, state := 1 }, { isUsed := true, state := 1 }], groups := [] }
example : ¬ OneStarted badState := by
  intro h
  exact h 0 1 (by decide) rfl rfl rfl rfl (Or.inl rfl)

end Iec.Props.C08
