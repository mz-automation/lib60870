/-
C17 — lock discipline of the threaded CS104 server / client and of the CS101 queues,
decided on the skeletons that translate/locks.py regenerates from the C sources on
every run (`Iec.Gen.LockSkel`).

Decided here (for every path, every number of loop iterations, every branch outcome):
  * every lock is released exactly once on every path of every function, by the thread
    that took it, and nothing is held at any return (`every_path_releases_what_it_took`),
    no path releases a lock it does not hold or waits for a lock it holds itself
    (`no_path_faults`);
  * the lock-order relation inside the library (lock held → lock waited for; through
    calls and through joins of threads) has no cycle (`internal_lock_order_acyclic`);
  * application callbacks, which may call any public function, run with no lock held —
    except at the recorded sites (`callbacks_outside_locks_partial`; the full statement
    is false on this tree: known_findings.txt, reproduced by harness/locks_dyn.c).
Not decided: data-race freedom (DESIGN.md, C17).
-/
import Iec.Lemmas.Locks
import Iec.Gen.LockSkel
namespace Iec.Props.C17
open Iec.Locks Iec.Gen.LockSkel

/-- Callbacks that are not assumed to call back into the API: the raw-message hook is a
debugging tap that receives only the octets (iec60870_common.h:93-105). -/
def observers : List String := ["rawMessageHandler"]
def obsIdx : List Nat := (observers.map cbNames.idxOf).filter (· < cbNames.length)

theorem all_balanced : skeletons.all balanced = true := by decide +kernel

/-- C17, pairing.  On every path of every function that touches a lock — whatever the
branch outcomes and loop trip counts — the function ends (by `return` or by falling off
its end) holding exactly what it held at entry: nothing. -/
theorem every_path_releases_what_it_took (s : Stmt) (hs : s ∈ skeletons) (o : Out)
    (h : Run s start o) : o = .norm start ∨ o = .ret [] :=
  balanced_sound s (List.all_eq_true.mp all_balanced s hs) o h

/-- C17, no double release / self-deadlock.  No path posts a semaphore the thread does
not hold (which would raise a binary semaphore to 2 and silently end mutual exclusion) or
waits for one it already holds. -/
theorem no_path_faults (s : Stmt) (hs : s ∈ skeletons) : ¬ Run s start .fault := by
  intro h
  rcases every_path_releases_what_it_took s hs _ h with h | h <;> cases h

theorem summaries_stable : summariesStable skeletons = true := by decide +kernel

def edges : List (Nat × Nat) := orderEdges skeletons
/-- number of locks reachable below `l` -/
def rank (l : Nat) : Nat := (reach edges lockNames.length (succs edges l)).length

theorem order_ranked : edges.all (fun e => rank e.2 < rank e.1) = true := by decide +kernel

/-- C17, lock order.  No chain "holds x, waits for a lock whose holder waits for … x"
can be formed from what the library's own code does (calls and thread joins included). -/
theorem internal_lock_order_acyclic : ∀ x, ¬ Path edges x x :=
  ranked_no_cycle edges rank order_ranked

/-- `(lock, callback)`: the application callback may be entered while the thread holds the lock -/
def cbPairs : List (String × String) :=
  (cbUnderLock obsIdx skeletons).map (fun p => (lockNames.getD p.1 "?", cbNames.getD p.2 "?"))

/-- the sites recorded as findings (known_findings.txt, DESIGN.md) -/
def recorded : List (String × String) :=
  [("MasterConnection.stateLock", "connectionEventHandler"),
   ("CS104_Slave.openConnectionsLock", "connectionEventHandler"),
   ("CS104_Connection.conStateLock", "receivedHandler")]

/-- C17, callbacks (partial).  Apart from the recorded sites, every application callback
is entered with no lock held, so a callback that calls back into the API cannot meet a
lock of its own thread.  The full statement (`cbPairs = []`) is false on this tree: the
recorded pairs are reproduced on the real code by `harness/locks_dyn.c finding-*`. -/
theorem callbacks_outside_locks_partial : ∀ p ∈ cbPairs, p ∈ recorded := by decide +kernel

/-! Tests: paths that end holding a lock, or fault, exist in the semantics, and `balanced` answers `false` on them. -/

/-- a function that returns on one branch without releasing: a path ends holding lock 0 -/
example : Run (.seq (.wait 0) (.choice .ret (.post 0))) start (.ret [0]) :=
  .seq_norm (.wait_ok (by simp)) (.choice_l .ret)
example : balanced (.seq (.wait 0) (.choice .ret (.post 0))) = false := by decide
/-- the STOPDT defect repaired by bd3fc44: release, then release again -/
example : balanced (.seq (.wait 0) (.seq (.post 0) (.post 0))) = false := by decide
example : Run (.seq (.wait 0) (.seq (.post 0) (.post 0))) start .fault :=
  .seq_norm (.wait_ok (by simp)) (.seq_norm (.post_ok (by simp [hIns])) (.post_bad (by simp [hIns, hDel])))
/-- a loop that takes and releases per iteration: rejected with a `break` before the release, accepted with the
release before the `break` -/
example : balanced (.loop (.seq (.wait 1) (.seq (.choice .skip .brk) (.post 1))) .skip) = false := by decide
example : balanced (.loop (.seq (.wait 1) (.seq (.choice .skip (.seq (.post 1) .brk)) (.post 1))) .skip) = true := by decide
example : skeletons.length > 100 ∧ (orderEdges skeletons).length ≥ 5 := by decide +kernel

end Iec.Props.C17
