import Iec.Model.Dispatch
import Iec.Lemmas.Bits
import Iec.Model.CliCmd
import Iec.Lemmas.Asdu
/-
C09 — Command dispatch and mirrored negative responses (CS104 and CS101 slave).

Statement (properties.jsonl): for each received system command, if its cause of
transmission is allowed for the type and (CS104) its object address is zero, the registered
callback is invoked exactly once with the decoded qualifier / time / address; otherwise
exactly one negative response mirroring type, addresses and payload is returned with
cause 45, 47 or - when no handler accepts - 44; commands issued through the client API reach
the callbacks with identical parameters; a truncated command never reaches its specific
callback.

Model: `Iec.Dispatch.handle104` / `handle101` (the two `handleASDU` functions after the
repairs recorded in known_findings.txt), over ASDU octets with `Iec.Asdu.getElement` as the
decoder (so "truncated" is exactly C02's notion).  The theorems are for every ASDU octet
string, every handler set and every handler return value - the quantifier of the property -
by case analysis of the decision function.  Tie: differential over type 0..255 x COT 0..63 x
flags x IOA zero/non-zero x complete/truncated x handler subsets, both stacks, each case in
an exactly sized heap block under ASan, plus the model-free "at most one response" oracle.
Client side (section Client): the six hand-written system-command builders of cs104_connection.c are modelled
(`Iec.CliCmd.build`, tied by the `c.cmd` operations of the client differential); four of them are proved to reach the
server callback with identical parameters: `read_reaches_callback`, `interrogation_reaches_callback`,
`counter_reaches_callback`, `clocksync_reaches_callback` (builder octets -> `handle104` -> callback with the same
address / qualifier / time, for every legal size configuration, common address, originator address and parameter
value).  Partial: the two test-command builders (`Cmd.test`, `Cmd.testTs`) have no theorem;
`sendProcessCommand(Ex)` and the CS101 master's builders (cs101_master.c:330-436) build through the ASDU codec
(C01/C12) and have no theorem of their own.
-/
namespace Iec.Props.C09
open Iec.Dispatch Iec.Asdu Iec.Layout

theorem typed_cases (a : Asdu) (is104 : Bool) (allowed : List Nat) (h : Option Bool) (name : String)
    (arg : Nat × List Nat → Nat) (chk : Bool) :
    typed a is104 allowed h name arg chk = some ([.resp (negative a 45).bytes], true) ∨
    typed a is104 allowed h name arg chk = some ([], false) ∨
    typed a is104 allowed h name arg chk = none ∨
    typed a is104 allowed h name arg chk = some ([.resp (negative a 47).bytes], true) ∨
    ∃ el r, a.getElement 0 = some el ∧ typed a is104 allowed h name arg chk = some ([.cb name (arg el)], r) := by
  unfold typed
  by_cases hc : allowed.contains a.cot = true
  · rw [if_pos hc]
    cases h with
    | none => exact .inr (.inl rfl)
    | some r =>
      cases hg : a.getElement 0 with
      | none =>
        cases is104
        · exact .inr (.inl rfl)
        · exact .inr (.inr (.inl rfl))
      | some el =>
        simp only
        by_cases hz : (is104 && chk && el.1 != 0) = true
        · rw [if_pos hz]; exact .inr (.inr (.inr (.inl rfl)))
        · rw [if_neg hz]; exact .inr (.inr (.inr (.inr ⟨el, r, rfl, rfl⟩)))
  · rw [if_neg hc]; exact .inl rfl

/-- the common decision shape yields at most one output: nothing (no handler installed),
one callback, or one negative mirror -/
theorem typed_one (a : Asdu) (is104 : Bool) (allowed : List Nat) (h : Option Bool) (name : String)
    (arg : Nat × List Nat → Nat) (chk : Bool) (o : List Out) (handled : Bool)
    (hr : typed a is104 allowed h name arg chk = some (o, handled)) : o.length ≤ 1 := by
  rcases typed_cases a is104 allowed h name arg chk with e | e | e | e | ⟨el, r, _, e⟩ <;> rw [e] at hr <;> cases hr <;>
    simp

/-- wrong cause: exactly one response, cause 45, negative - whatever handlers exist -/
theorem wrong_cot (a : Asdu) (is104 : Bool) (allowed : List Nat) (h : Option Bool) (name : String)
    (arg : Nat × List Nat → Nat) (chk : Bool) (hc : allowed.contains a.cot = false) :
    typed a is104 allowed h name arg chk = some ([.resp (negative a 45).bytes], true) := by
  unfold typed
  have : ¬ (allowed.contains a.cot = true) := by rw [hc]; decide
  rw [if_neg this]

/-- allowed cause, handler installed, complete object, (CS104) address zero: the callback
is invoked exactly once with the decoded argument, nothing else happens before the handler's
verdict is known -/
theorem callback_once (a : Asdu) (is104 : Bool) (allowed : List Nat) (r : Bool) (name : String)
    (arg : Nat × List Nat → Nat) (chk : Bool) (el : Nat × List Nat) (hc : allowed.contains a.cot = true)
    (hg : a.getElement 0 = some el) (hz : is104 = true → chk = true → el.1 = 0) :
    typed a is104 allowed (some r) name arg chk = some ([.cb name (arg el)], r) := by
  unfold typed
  rw [if_pos hc]
  simp only [hg]
  have : ¬ ((is104 && chk && (el.1 != 0)) = true) := by
    intro h
    simp only [Bool.and_eq_true, bne_iff_ne, ne_eq] at h
    exact h.2 (hz h.1.1 h.1.2)
  rw [if_neg this]

/-- CS104, non-zero object address: exactly one response with cause 47, no callback -/
theorem nonzero_ioa (a : Asdu) (allowed : List Nat) (r : Bool) (name : String) (arg : Nat × List Nat → Nat)
    (el : Nat × List Nat) (hc : allowed.contains a.cot = true) (hg : a.getElement 0 = some el) (hz : el.1 ≠ 0) :
    typed a true allowed (some r) name arg true = some ([.resp (negative a 47).bytes], true) := by
  unfold typed
  rw [if_pos hc]
  simp only [hg]
  have : ((true && true && (el.1 != 0)) = true) := by simpa using hz
  rw [if_pos this]

/-- truncated command: never reaches the command-specific callback (CS104: the ASDU is
invalid and the connection is closed; CS101: treated as not handled) -/
theorem truncated_no_callback (a : Asdu) (is104 : Bool) (allowed : List Nat) (h : Option Bool) (name : String)
    (arg : Nat × List Nat → Nat) (chk : Bool) (hg : a.getElement 0 = none) :
    ∀ o handled, typed a is104 allowed h name arg chk = some (o, handled) → ∀ x ∈ o, ∀ v, x ≠ .cb name v := by
  intro o handled hr x hx v
  rcases typed_cases a is104 allowed h name arg chk with e | e | e | e | ⟨el, r, hel, e⟩
  · rw [e] at hr; cases hr; rw [List.mem_singleton.mp hx]; exact fun h => Out.noConfusion h
  · rw [e] at hr; cases hr; cases hx
  · rw [e] at hr; cases hr
  · rw [e] at hr; cases hr; rw [List.mem_singleton.mp hx]; exact fun h => Out.noConfusion h
  · rw [hg] at hel; cases hel

/-- no handler accepts: exactly one negative mirror with cause 44 follows (after the
generic handler, if one is installed, has declined) -/
theorem unhandled_gets_44 (a : Asdu) (hs : Handlers) (pre : List Out) (hn : hs.asdu ≠ some true) :
    ∃ g, tail a hs pre false = pre ++ g ++ [.resp (negative a 44).bytes] ∧ ∀ x ∈ g, x = .generic a.bytes := by
  unfold tail
  cases h : hs.asdu with
  | none => exact ⟨[], by simp, by simp⟩
  | some b =>
    cases b with
    | true => exact absurd h hn
    | false => exact ⟨[.generic a.bytes], by simp, by simp⟩

/-- a handled command produces nothing further -/
theorem handled_stops (a : Asdu) (hs : Handlers) (pre : List Out) : tail a hs pre true = pre := by
  unfold tail; simp

/-- mirroring: the negative response has the request's length, type, VSQ, addresses and
payload; only the cause octet differs: cause := c, negative bit set, test bit kept -/
theorem negative_mirrors (a : Asdu) (c : Nat) (hl : 3 ≤ a.bytes.length) :
    (negative a c).bytes.length = a.bytes.length ∧ (∀ i, i ≠ 2 → (negative a c).bytes.getD i 0 = a.bytes.getD i 0) ∧
    (negative a c).p = a.p := by
  unfold negative Asdu.setNegative Asdu.setCot setByte
  refine ⟨by simp, ?_, rfl⟩
  intro i hi
  simp [List.getD_eq_getElem?_getD, List.getElem?_set_ne (Ne.symm hi)]

theorem negative_cause : ∀ b2, b2 < 256 → ∀ c, c < 64 →
    let n := (((b2 &&& 0xc0) + (c &&& 0x3f)) % 256) ||| 0x40
    n &&& 0x3f = c ∧ n &&& 0x40 = 0x40 ∧ n &&& 0x80 = b2 &&& 0x80 := by
  -- the request's two top bits and the six cause bits do not overlap, so `+`, `|||` and `&&&` act on disjoint fields
  intro b2 hb c hc
  have hn : b2 / 128 * 128 + 64 + c < 256 := by omega
  have h1 : (b2 / 64 * 64 + c) / 128 = b2 / 128 := by omega
  have h2 : (b2 / 64 * 64 + c) % 64 = c := by rw [Nat.mul_add_mod_self_right, Nat.mod_eq_of_lt hc]
  have hx : b2 / 64 * 64 + c < 256 := by clear h1 h2 hn; omega
  simp only [Iec.Bits.and_c0 hb, Iec.Bits.and_63, Nat.mod_eq_of_lt hc, Nat.mod_eq_of_lt hx, Iec.Bits.or_40 hx, h1, h2,
    Iec.Bits.and_40 hn, Iec.Bits.and_80 hn, Iec.Bits.and_80 hb]
  clear hx h1 h2
  omega

/-- non-vacuity: C_IC_NA_1 act with QOI 20 under 2/2/3 reaches the callback; with cause 3 it is mirrored with 45 -/
example :
    let p : Params := ⟨2, 2, 3, 249⟩
    let a : Asdu := ⟨p, [100, 1, 6, 0, 1, 0, 0, 0, 0, 20]⟩
    let b : Asdu := ⟨p, [100, 1, 3, 0, 1, 0, 0, 0, 0, 20]⟩
    handle104 a { ic := some true } = some [.cb "ic" 20] ∧
    handle104 b { ic := some true } = some [.resp [100, 1, 0x6d, 0, 1, 0, 0, 0, 0, 20]] := by decide

section Client
open Iec.CliCmd

theorem ioaBytes_eq (p : Params) (hl : p.Legal) (ioa : Nat) : ioaBytes p ioa = leBytes p.sizeOfIOA ioa := by
  obtain ⟨_, _, h3⟩ := hl
  unfold ioaBytes
  rcases h3 with h | h | h <;> rw [h]
  · rfl
  · rfl
  · -- the third octet: the builder divides by 0x10000, `leBytes` by 256 twice
    exact congrArg (fun x => [ioa % 256, ioa / 0x100 % 256, x % 256]) (Nat.div_div_eq_div_mul ioa 256 256).symm

theorem ident_length (p : Params) (hl : p.Legal) (oa t v cot ca : Nat) : (ident p oa t v cot ca).length = p.hdrLen := by
  obtain ⟨h1, h2, _⟩ := hl
  rcases h1 with h1 | h1 <;> rcases h2 with h2 | h2 <;> simp [ident, Params.hdrLen, h1, h2]

theorem built_header (p : Params) (hl : p.Legal) (oa t cot ca : Nat) (rest : List Nat) (ht : t < 256) (hc : cot < 64) :
    (⟨p, ident p oa t 1 cot ca ++ rest⟩ : Asdu).typeId = t ∧ (⟨p, ident p oa t 1 cot ca ++ rest⟩ : Asdu).cot = cot ∧
    (⟨p, ident p oa t 1 cot ca ++ rest⟩ : Asdu).payload = rest := by
  refine ⟨?_, ?_, ?_⟩
  · simp [Asdu.typeId, Asdu.byte, ident]; omega
  · have hm : cot % 256 = cot := by omega
    simp [Asdu.cot, Asdu.byte, ident, hm, Iec.Bits.and_63, Nat.mod_eq_of_lt hc]
  · unfold Asdu.payload
    exact List.drop_left' (ident_length p hl oa t 1 cot ca)

theorem single_element (p : Params) (e : TypeEntry) (ioa : Nat) (fb : List Nat) (vs : List Nat)
    (hio : ioa < 256 ^ p.sizeOfIOA) (hfix : fixedSize e.fields = fb.length) (hdec : decodeFields e.fields fb = some (vs, [])) :
    decodeObj p e (leBytes p.sizeOfIOA ioa ++ fb) 0 true = some (ioa, vs) := by
  simpa using decodeObj_at p e true ioa hio [] fb vs [] (Nat.le_of_eq hfix) hdec

/-- the object a `.single` command built by the client API carries: `getElement` reads back address and fields -/
theorem built_element (p : Params) (hl : p.Legal) (oa t cot ca ioa : Nat) (e : TypeEntry) (fb vs : List Nat)
    (ht : t < 256) (hc : cot < 64) (hlk : lookup t = some e) (hcat : e.cat = .single) (hio : ioa < 256 ^ p.sizeOfIOA)
    (hfix : fixedSize e.fields = fb.length) (hdec : decodeFields e.fields fb = some (vs, [])) :
    (⟨p, ident p oa t 1 cot ca ++ (ioaBytes p ioa ++ fb)⟩ : Asdu).getElement 0 = some (ioa, vs) := by
  obtain ⟨h1, _, h3⟩ := built_header p hl oa t cot ca (ioaBytes p ioa ++ fb) ht hc
  unfold Asdu.getElement
  rw [h1, hlk]
  simp only [hcat]
  rw [h3, ioaBytes_eq p hl]
  exact single_element p e ioa fb vs hio hfix hdec

/-- read command: `CS104_Connection_sendReadCommand(ca, ioa)` reaches the read handler with the same object
address, for every size configuration and every address that fits the configured width -/
theorem read_reaches_callback (p : Params) (hl : p.Legal) (oa ca ioa : Nat) (hio : ioa < 256 ^ p.sizeOfIOA)
    (hs : Handlers) (r : Bool) (hr : hs.rd = some r) :
    handle104 ⟨p, build p oa (.read ca ioa)⟩ hs =
      some (tail ⟨p, build p oa (.read ca ioa)⟩ hs [.cb "rd" ioa] r) := by
  obtain ⟨h1, h2, _⟩ := built_header p hl oa 102 5 ca (ioaBytes p ioa ++ []) (by decide) (by decide)
  have hb : build p oa (.read ca ioa) = ident p oa 102 1 5 ca ++ (ioaBytes p ioa ++ []) := by simp [build]
  have hg := built_element p hl oa 102 5 ca ioa ⟨102, "C_RD_NA_1", .single, [], 0⟩ [] [] (by decide) (by decide) rfl rfl
    hio rfl rfl
  unfold handle104
  rw [hb]
  simp only [h1, show (102 : Nat) ≠ 100 by decide, show (102 : Nat) ≠ 101 by decide, if_false, if_true]
  rw [hr, callback_once _ true [5] r "rd" (·.1) false (ioa, []) (by rw [h2]; decide) hg (by intro _ h; cases h)]
  rfl

/-- interrogation command (cause activation or deactivation) reaches the interrogation handler with the same
qualifier -/
theorem interrogation_reaches_callback (p : Params) (hl : p.Legal) (oa cot ca qoi : Nat) (hc : cot = 6 ∨ cot = 8) (hq : qoi < 256)
    (hs : Handlers) (r : Bool) (hr : hs.ic = some r) :
    handle104 ⟨p, build p oa (.interrogation cot ca qoi)⟩ hs =
      some (tail ⟨p, build p oa (.interrogation cot ca qoi)⟩ hs [.cb "ic" qoi] r) := by
  have hc64 : cot < 64 := by rcases hc with h | h <;> omega
  obtain ⟨h1, h2, _⟩ := built_header p hl oa 100 cot ca (ioaBytes p 0 ++ [qoi]) (by decide) hc64
  have hb : build p oa (.interrogation cot ca qoi) = ident p oa 100 1 cot ca ++ (ioaBytes p 0 ++ [qoi]) := by
    simp [build, Nat.mod_eq_of_lt hq]
  have hg := built_element p hl oa 100 cot ca 0 ⟨100, "C_IC_NA_1", .single, [.le 1], 0⟩ [qoi] [qoi] (by decide) hc64 rfl rfl
    (Nat.pow_pos (by decide)) rfl (by simp [decodeFields, leVal])
  unfold handle104
  rw [hb]
  simp only [h1, if_true]
  rw [hr, callback_once _ true [6, 8] r "ic" v0 true (0, [qoi]) (by rw [h2]; rcases hc with h | h <;> subst h <;> decide) hg (by intros; rfl)]
  rfl

/-- counter interrogation command reaches its handler with the same qualifier -/
theorem counter_reaches_callback (p : Params) (hl : p.Legal) (oa cot ca qcc : Nat) (hc : cot = 6 ∨ cot = 8) (hq : qcc < 256)
    (hs : Handlers) (r : Bool) (hr : hs.ci = some r) :
    handle104 ⟨p, build p oa (.counter cot ca qcc)⟩ hs =
      some (tail ⟨p, build p oa (.counter cot ca qcc)⟩ hs [.cb "ci" qcc] r) := by
  have hc64 : cot < 64 := by rcases hc with h | h <;> omega
  obtain ⟨h1, h2, _⟩ := built_header p hl oa 101 cot ca (ioaBytes p 0 ++ [qcc]) (by decide) hc64
  have hb : build p oa (.counter cot ca qcc) = ident p oa 101 1 cot ca ++ (ioaBytes p 0 ++ [qcc]) := by
    simp [build, Nat.mod_eq_of_lt hq]
  have hg := built_element p hl oa 101 cot ca 0 ⟨101, "C_CI_NA_1", .single, [.le 1], 0⟩ [qcc] [qcc] (by decide) hc64 rfl rfl
    (Nat.pow_pos (by decide)) rfl (by simp [decodeFields, leVal])
  unfold handle104
  rw [hb]
  simp only [h1, show (101 : Nat) ≠ 100 by decide, if_false, if_true]
  rw [hr, callback_once _ true [6, 8] r "ci" v0 true (0, [qcc]) (by rw [h2]; rcases hc with h | h <;> subst h <;> decide) hg (by intros; rfl)]
  rfl

/-- clock synchronisation command reaches the clock handler with the same seven time octets (as the
little-endian number the decoder stores) -/
theorem clocksync_reaches_callback (p : Params) (hl : p.Legal) (oa ca : Nat) (time : List Nat) (ht : time.length = 7)
    (hs : Handlers) (r : Bool) (hr : hs.cs = some r) :
    ∃ rest, handle104 ⟨p, build p oa (.clockSync ca time)⟩ hs = some (.cb "cs" (leVal time) :: rest) := by
  obtain ⟨h1, h2, _⟩ := built_header p hl oa 103 6 ca (ioaBytes p 0 ++ time) (by decide) (by decide)
  have hb : build p oa (.clockSync ca time) = ident p oa 103 1 6 ca ++ (ioaBytes p 0 ++ time) := by
    simp [build, List.take_of_length_le (Nat.le_of_eq ht)]
  have hg := built_element p hl oa 103 6 ca 0 ⟨103, "C_CS_NA_1", .single, [.le 7], 0⟩ time [leVal time] (by decide) (by decide)
    rfl rfl (Nat.pow_pos (by decide)) (by simp [fixedSize, ht])
    (by simp [decodeFields, ht, List.take_of_length_le, List.drop_of_length_le])
  unfold handle104
  rw [hb]
  simp only [h1, h2, show (103 : Nat) ≠ 100 by decide, show (103 : Nat) ≠ 101 by decide, show (103 : Nat) ≠ 102 by decide,
    if_false, if_true, hr, hg]
  cases r <;> simp [v0]

end Client

end Iec.Props.C09
