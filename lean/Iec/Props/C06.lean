import Iec.Lemmas.Srv104
import Iec.Lemmas.MsgQueue
import Iec.Lemmas.MsgQueueRetain
import Iec.Lemmas.Srv104QWf
import Iec.Lemmas.Srv104Kept
import Iec.Gen.Consts104
/-
C06 — Server event buffer: no loss, kept until acknowledged, resent after reconnect.

Statement (properties.jsonl): every ASDU handed to the event queue is transmitted once a
connection is activated and stays buffered until acknowledged; transmitted but
unacknowledged ASDUs are transmitted again on the next activated connection when their
connection ends; acknowledged ASDUs are never transmitted again; the only permitted loss is
displacement of the oldest entries; a queue for N entries retains the N most recent
equal-sized ASDUs; delivered bytes equal enqueued bytes.

Model: `Iec.Queues.MsgQueue`, the ring of cs104_slave.c:112-581 at the level of byte offsets, of the source as
repaired (stale `lastInBufferEntry`, 77a7355; reset on connection close, 9288ed1).  The theorems about one ring
assume the layout invariant `MqInv` of Lemmas/MsgQueue.lean (the queued entries are `up ++ low`, `up` back to back
from `first` to `lastInBuffer`, `low` back to back from offset 0 below `first`); `server_event_rings_wellformed`
shows it for the rings of every reachable server state, whatever reference `markAsduAsConfirmed` /
`setEntryWaitingForTransmission` is called with, stale or not.

Clause by clause:
* only the oldest entries are displaced: `enqueue_displaces_only_oldest`, `enqueue_toList` (ASDUs of at most 250
  octets; `MessageQueue_enqueueASDU` ignores a longer one, `mq_enqueue_big`);
* delivered bytes equal enqueued bytes: `enqueue_stores`, `next_waiting_is_oldest_waiting`, `getNextWaiting_spec`,
  `state_change_is_local`;
* buffered until acknowledged: `events_kept_until_acknowledged` (whole server), `confirm_marks_or_removes` (one ring);
* acknowledged ASDUs are never transmitted again: the `CfKept` part of `events_kept_until_acknowledged` with
  `next_waiting_is_oldest_waiting` (only waiting entries are handed out);
* transmitted again when the connection ends: the repaired source re-arms the entries of the ended connection one by
  one (`setEntryWaiting_data`; reaping removes and confirms nothing, `events_kept_until_acknowledged`);
  `rearm_after_connection_loss` and `confirmed_stays_confirmed` are about the whole-ring reset
  `MessageQueue_setWaitingForTransmissionWhenNotConfirmed` of the source before 9288ed1, which the model has as well;
* N most recent: `retains_N_most_recent` (Lemmas/MsgQueueRetain.lean).

NOT proved: the liveness half ("is transmitted once a connection is activated").  It rests on the correspondence run
(real ring - pointers, every entry's id / state / size in FIFO order - compared with the model after every operation,
queue sizes 1..40) and the duplicate / order oracle of the harness.
-/
namespace Iec.Props.C06
open Iec.Queues

theorem get_put_same (q : MsgQueue) (o : Nat) (e : QEntry) : (q.put o e).get o = some e :=
  (get_put q o e).1

/-- changing an entry's transmission state never changes any entry's id or octets -/
theorem setState_data (q : MsgQueue) (o st o' : Nat) :
    ((q.setState o st).get o').map (fun e => (e.id, e.data)) = (q.get o').map (fun e => (e.id, e.data)) := by
  rw [get_setState, Option.map_map]
  cases q.get o' with
  | none => rfl
  | some e => simp only [Option.map_some, Function.comp]; split <;> rfl

/-- delivered octets equal enqueued octets: `getNextWaitingASDU` hands out exactly the stored id and octets of the
entry `firstWaiting` finds, and the entry has the same id and octets afterwards (that it is the oldest waiting one and
becomes sent-but-unconfirmed: `next_waiting_is_oldest_waiting`) -/
theorem getNextWaiting_spec (q : MsgQueue) (id off : Nat) (data : List Nat) (q' : MsgQueue)
    (h : q.getNextWaiting = (q', some (id, off, data))) :
    q.firstWaiting = some off ∧ (q.get off).map (fun e => (e.id, e.data)) = some (id, data) ∧
    (q'.get off).map (fun e => (e.id, e.data)) = some (id, data) := by
  rcases getNextWaiting_cases q with hn | ⟨o, e, hf, hg, he⟩
  · rw [hn] at h; cases h
  · cases he.symm.trans h
    exact ⟨hf, by rw [hg]; rfl, by rw [setState_data, hg]; rfl⟩

theorem evictLoop_nextId (fuel : Nat) : ∀ (q : MsgQueue) (np es : Nat), (evictLoop q np es fuel).nextId = q.nextId :=
  fun q np es => (evictLoop_fixed np es fuel q).2

theorem finish_spec (q1 : MsgQueue) (np : Nat) (data : List Nat) :
    (writeEntry q1 np data).last = some np ∧ (writeEntry q1 np data).get np = some ⟨q1.nextId, 1, data⟩ ∧
    (writeEntry q1 np data).nextId = q1.nextId + 1 :=
  have h := writeEntry_fields q1 np data
  ⟨h.2.1, h.2.2.2.2.2.2.1, h.2.2.2.2.2.1⟩

/-- an enqueued ASDU (≤ 250 octets) is stored under the next entry id, waiting, octet for octet -/
theorem enqueue_stores (q : MsgQueue) (data : List Nat) (h : data.length ≤ 250) :
    ∃ pos, (q.enqueue data).last = some pos ∧ (q.enqueue data).get pos = some ⟨q.nextId, 1, data⟩ ∧
      (q.enqueue data).nextId = q.nextId + 1 := by
  obtain ⟨q1, np, he, _, hid⟩ := enqueue_eq_writeEntry q data h
  rw [he, ← hid]
  exact ⟨np, finish_spec q1 np data⟩

/-- the per-connection reset `MessageQueue_setEntryWaitingForTransmission` changes no entry's id or octets (that it
touches the state of a sent-but-unconfirmed entry only: `setEntryWaiting_cases`) -/
theorem setEntryWaiting_data (q : MsgQueue) (o id o' : Nat) :
    ((q.setEntryWaiting o id).get o').map (fun e => (e.id, e.data)) = (q.get o').map (fun e => (e.id, e.data)) := by
  rcases setEntryWaiting_cases q o id with h | ⟨_, _, _, h⟩ <;> rw [h]
  exact setState_data q o 1 o'

/-- C06, the ring is a list.  Under the layout invariant the walk of the C code from `firstEntry`, cut off after
`entryCounter` steps, yields exactly the queued entries, oldest first (that it arrives at `lastEntry` with the last of
them: `MqInv.path`). -/
theorem ring_is_a_list (q : MsgQueue) (up low : List MEntry) (h : MqInv q up low) : q.toList = MqInv.abs up low :=
  toList_eq q up low h

/-- C06, the only permitted loss is displacement of the oldest entries.  For every ring state satisfying the
invariant (any fill level, any wrap position), every ASDU of at most 250 octets and every ring of at least one
entry: the queue after the enqueue is the old queue without its `k` oldest entries, followed by the new entry
(next id, waiting, the ASDU's octets). -/
theorem enqueue_displaces_only_oldest (q : MsgQueue) (up low : List MEntry) (h : MqInv q up low) (d : List Nat)
    (hd : d.length ≤ 250) (hsize : 266 ≤ q.size) :
    ∃ up' low' k, MqInv (q.enqueue d) up' low' ∧
      MqInv.abs up' low' = (MqInv.abs up low).drop k ++ [⟨q.nextId, 1, d⟩] :=
  mq_enqueue_refines q up low h d hd hsize

/-- the same as a statement about the C walk: what `toList` shows after the enqueue -/
theorem enqueue_toList (q : MsgQueue) (up low : List MEntry) (h : MqInv q up low) (d : List Nat)
    (hd : d.length ≤ 250) (hsize : 266 ≤ q.size) :
    ∃ k, (q.enqueue d).toList = q.toList.drop k ++ [⟨q.nextId, 1, d⟩] := by
  obtain ⟨up', low', k, hinv, habs⟩ := mq_enqueue_refines q up low h d hd hsize
  exact ⟨k, by rw [toList_eq _ up' low' hinv, toList_eq q up low h, habs]; rfl⟩

/-- C06, delivered bytes equal enqueued bytes; oldest waiting first.  `getNextWaitingASDU` hands out the oldest waiting
entry with exactly its stored id and octets, marks it sent-but-unconfirmed and touches nothing else. -/
theorem next_waiting_is_oldest_waiting (q : MsgQueue) (up low : List MEntry) (h : MqInv q up low) :
    match (up ++ low).find? (fun x => x.2.st == 1) with
    | none => q.getNextWaiting = (q, none)
    | some x => q.getNextWaiting = (q.setState x.1 2, some (x.2.id, x.1, x.2.data)) ∧
        MqInv (q.setState x.1 2) (up.map (updSt x.1 2)) (low.map (updSt x.1 2)) :=
  getNextWaiting_refines q up low h

/-- a state change touches one entry's state and nothing else (ids, octets, order, every other entry) -/
theorem state_change_is_local (q : MsgQueue) (up low : List MEntry) (h : MqInv q up low) (o st : Nat) :
    MqInv (q.setState o st) (up.map (updSt o st)) (low.map (updSt o st)) ∧
    (MqInv.abs (up.map (updSt o st)) (low.map (updSt o st))).map (fun e => (e.id, e.data)) =
      (MqInv.abs up low).map (fun e => (e.id, e.data)) := by
  refine ⟨setState_inv q up low h o st, ?_⟩
  simp only [MqInv.abs, ← List.map_append, List.map_map]
  apply List.map_congr_left
  intro x _
  simp only [Function.comp, updSt]
  split <;> rfl

/-- C06, acknowledged entries.  A confirmation that designates a queued entry (offset and id as stored in the
k-buffer, id inside the window) marks it confirmed; if it is the oldest entry it is removed; every other entry
keeps id, state, octets and position in the order. -/
theorem confirm_marks_or_removes (q : MsgQueue) (up low : List MEntry) (h : MqInv q up low) (x : MEntry)
    (hx : x ∈ up ++ low) (hwin : x.2.id + 1 ≤ q.nextId ∧ q.nextId - 1 - x.2.id < q.count) :
    ∃ up' low', MqInv (q.markConfirmed x.1 x.2.id) up' low' ∧
      MqInv.abs up' low' =
        (if (up ++ low).head? = some x then (MqInv.abs (up.map (updSt x.1 0)) (low.map (updSt x.1 0))).tail
         else MqInv.abs (up.map (updSt x.1 0)) (low.map (updSt x.1 0))) :=
  markConfirmed_refines q up low h x hx hwin

/-- C06, resent after the connection ends, for the whole-ring reset loop of the source before 9288ed1
(`MessageQueue_setWaitingForTransmissionWhenNotConfirmed`): within its fuel it maps every entry `e` to `rearmE e` -
sent-but-unconfirmed becomes waiting, everything else (in particular confirmed) stays as it is. -/
theorem rearm_after_connection_loss (q : MsgQueue) (up low : List MEntry) (h : MqInv q up low) :
    MqInv q.setWaitingWhenNotConfirmed (up.map rearm) (low.map rearm) ∧
    q.setWaitingWhenNotConfirmed.toList = q.toList.map rearmE := by
  have h' := setWaiting_refines q up low h
  refine ⟨h', ?_⟩
  rw [toList_eq _ _ _ h', toList_eq q up low h]
  simp only [MqInv.abs, List.map_append, List.map_map]
  rfl

/-- acknowledged ASDUs are never transmitted again: re-arming never turns a confirmed (or a waiting) entry
into anything else, and never changes ids or octets -/
theorem confirmed_stays_confirmed (e : QEntry) : (e.st ≠ 2 → rearmE e = e) ∧ (rearmE e).id = e.id ∧ (rearmE e).data = e.data := by
  unfold rearmE
  refine ⟨fun h => by simp [h], ?_, ?_⟩ <;> split <;> rfl

theorem create_inv (n : Nat) : MqInv (MsgQueue.create n) [] [] := .nil rfl

/-- non-vacuity: two enqueues into a fresh one-entry ring are kept in order with consecutive ids -/
example : (((MsgQueue.create 1).enqueue [1, 1, 1]).enqueue [2, 2]).toList.map (·.id) = [1, 2] := by decide

/-- C06, a queue for N entries retains the N most recent ASDUs of equal size.  For every N >= 1, every size 1..250 and
every number of enqueues into a freshly created queue: the queue holds at least min(enqueued, N) entries, and what it holds
is exactly the most recent `count` ASDUs, octet for octet, oldest first. -/
theorem retains_N_most_recent (N L : Nat) (hN : 1 ≤ N) (hL : L ≤ 250) (ds : List (List Nat)) (hds : ∀ d ∈ ds, d.length = L) :
    min ds.length N ≤ (enqueueAll (MsgQueue.create N) ds).count ∧
    (enqueueAll (MsgQueue.create N) ds).toList.map (·.data) = ds.drop (ds.length - (enqueueAll (MsgQueue.create N) ds).count) := by
  have hsize : (MsgQueue.create N).size = N * 272 := rfl
  have hc := enqueueAll_count N L hN hL ds (MsgQueue.create N) [] [] (create_inv N) (by simp) hsize
    ⟨Nat.dvd_zero _, fun h => absurd h (Nat.lt_irrefl 0)⟩ hds
  have hc' : min ds.length N ≤ (enqueueAll (MsgQueue.create N) ds).count := by
    have : (MsgQueue.create N).count = 0 := rfl
    rw [this, Nat.zero_add] at hc; exact hc
  refine ⟨hc', ?_⟩
  have hs266 : 266 ≤ (MsgQueue.create N).size := by rw [hsize]; omega
  obtain ⟨up', low', k, hinv, hcont⟩ := enqueueAll_refines ds (MsgQueue.create N) [] [] (create_inv N)
    (fun d hd => by rw [hds d hd]; exact hL) hs266
  rw [toList_eq _ up' low' hinv]
  have hdata : (MqInv.abs up' low').map (·.data) = (content up' low').map Prod.snd := by
    simp [MqInv.abs, content, List.map_map, Function.comp_def]
  have hcnt : (enqueueAll (MsgQueue.create N) ds).count = (content up' low').length := by
    rw [hinv.count]; simp [content]
  rw [hdata, hcnt, hcont]
  simp only [content, List.append_nil, List.map_nil, List.nil_append, List.map_drop, List.map_map, List.length_drop, List.length_map]
  have hid : (Prod.snd ∘ fun d : List Nat => (1, d)) = id := rfl
  rw [hid, List.map_id]
  by_cases hk : k ≤ ds.length
  · rw [Nat.sub_sub_self hk]
  · have hk := Nat.le_of_not_le hk
    rw [Nat.sub_eq_zero_of_le hk, Nat.sub_zero, List.drop_of_length_le hk, List.drop_of_length_le (Nat.le_refl _)]

/-- non-vacuity: five 3-octet ASDUs into a queue for two entries - at least the two most recent are held (here: all five,
the ring is dimensioned for 256-octet entries) -/
example : ((enqueueAll (MsgQueue.create 2) [[1,1,1],[2,2,2],[3,3,3],[4,4,4],[5,5,5]]).toList.map (·.data)) = [[1,1,1],[2,2,2],[3,3,3],[4,4,4],[5,5,5]] := by decide
set_option maxRecDepth 10000 in
/-- with 200-octet ASDUs a queue for one entry holds exactly the most recent one -/
example : ((enqueueAll (MsgQueue.create 1) [List.replicate 200 1, List.replicate 200 2, List.replicate 200 3]).toList.map (·.data.headD 0)) = [3] := by decide

/-- the entry header is `sizeof(struct sMessageQueueEntryInfo)` and the ring of an N-entry queue has the size
`MessageQueue_create(N)` computes (checked at two N: the size is linear in N); `Iec.Gen.*` is generated from the
compiled source -/
theorem ring_geometry_matches_source :
    HDR = Iec.Gen.mqEntryHeader ∧ (MsgQueue.create 1).size = Iec.Gen.mqSize1 ∧ (MsgQueue.create 7).size = Iec.Gen.mqSize7 := by
  decide

/-- The event ring of every redundancy group / connection is well-formed in every reachable server state.  From a freshly
created server whose event queue holds at least one entry, after any sequence of ticks (accept with queue initialisation,
reception, acknowledgements that confirm entries - by references that may be stale -, transmission that marks entries sent,
re-arming when a connection ends), enqueues (with displacement), restarts and environment events: the ring satisfies the
layout invariant `MqInv` for some pair of lists - the hypothesis of `ring_is_a_list`, `enqueue_displaces_only_oldest`,
`next_waiting_is_oldest_waiting`, `confirm_marks_or_removes`, `rearm_after_connection_loss` and of the C13 ring theorems. -/
theorem server_event_rings_wellformed (p : Iec.Srv104.Params) (gs : List (String × List (Bool × List Nat))) (hq : 1 ≤ p.lowQ)
    (ops : List Iec.Srv104.WOp) (g : Nat) :
    ∃ up low, MqInv ((ops.foldl Iec.Srv104.WOp.apply (Iec.Srv104.create p gs)).grp g).lowQ up low :=
  ((Iec.Srv104.run_gok p gs hq ops).2 g).1

/-- in particular the C walk over the ring of a reachable state terminates and yields exactly the queued entries -/
theorem reachable_ring_is_a_list (p : Iec.Srv104.Params) (gs : List (String × List (Bool × List Nat))) (hq : 1 ≤ p.lowQ)
    (ops : List Iec.Srv104.WOp) (g : Nat) :
    ∃ up low, ((ops.foldl Iec.Srv104.WOp.apply (Iec.Srv104.create p gs)).grp g).lowQ.toList = MqInv.abs up low ∧
      ((ops.foldl Iec.Srv104.WOp.apply (Iec.Srv104.create p gs)).grp g).lowQ.count = (MqInv.abs up low).length := by
  obtain ⟨up, low, h⟩ := server_event_rings_wellformed p gs hq ops g
  exact ⟨up, low, toList_eq _ up low h, by rw [h.count]; simp [MqInv.abs]⟩

/-- An event stays in the ring, unconfirmed, until the connection it was sent on acknowledges it.  For EVERY server
state, connection `i` and group `g` whose ring is well-formed (every reachable state, `server_event_rings_wellformed`):
after the reception step of connection `i` - whatever arrived, in whatever segmentation - the ring of `g` holds the same
entries (offset, id, octets, order) as before without a prefix, every removed entry is referenced by the k-buffer of
connection `i` (it was transmitted on `i` and not yet acknowledged), and every other entry that was not confirmed is still
not confirmed unless the k-buffer of `i` references it; a confirmed entry stays confirmed (`CfKept`: with
`next_waiting_is_oldest_waiting` - only waiting entries are handed out - an acknowledged ASDU is never transmitted again).
The periodic tasks (transmission of waiting events, time-outs) and
the reaping of an ended connection (re-arming) remove and confirm nothing at all. -/
theorem events_kept_until_acknowledged (s : Iec.Srv104.Slave) (i g : Nat) (up low : List MEntry)
    (h : MqInv (s.grp g).lowQ up low) :
    (∃ up' low' k, MqInv ((Iec.Srv104.handleTcpConnection s i).grp g).lowQ up' low' ∧
      (∀ x ∈ (up ++ low).take k, (x.1, x.2.id) ∈ Iec.Srv104.refsOf (s.conn i).win) ∧
      (up' ++ low').map ekey = ((up ++ low).drop k).map ekey ∧
      StKept (Iec.Srv104.refsOf (s.conn i).win) ((up ++ low).drop k) (up' ++ low') ∧
      CfKept ((up ++ low).drop k) (up' ++ low')) ∧
    (∃ up' low', MqInv ((Iec.Srv104.periodic s i).grp g).lowQ up' low' ∧ (up' ++ low').map ekey = (up ++ low).map ekey ∧
      StKept [] (up ++ low) (up' ++ low') ∧ CfKept (up ++ low) (up' ++ low')) ∧
    (∃ up' low', MqInv ((Iec.Srv104.reap s i).grp g).lowQ up' low' ∧ (up' ++ low').map ekey = (up ++ low).map ekey ∧
      StKept [] (up ++ low) (up' ++ low') ∧ CfKept (up ++ low) (up' ++ low')) := by
  have nodrop : ∀ q', KeptX [] (s.grp g).lowQ q' →
      ∃ up' low', MqInv q' up' low' ∧ (up' ++ low').map ekey = (up ++ low).map ekey ∧ StKept [] (up ++ low) (up' ++ low') ∧
        CfKept (up ++ low) (up' ++ low') := by
    intro q' hk
    obtain ⟨up', low', k, h1, h2, h3, h4, h5⟩ := hk up low h
    have hk0 : (up ++ low).take k = [] := by
      cases hx : (up ++ low).take k with
      | nil => rfl
      | cons x xs => have := h2 x (by rw [hx]; simp); simp at this
    have hdrop : (up ++ low).drop k = up ++ low := by
      have := List.take_append_drop k (up ++ low)
      rw [hk0] at this; simpa using this
    rw [hdrop] at h3 h4 h5
    exact ⟨up', low', h1, h3, h4, h5⟩
  exact ⟨(Iec.Srv104.kr_handleTcpConnection s i).kept g up low h,
    nodrop _ ((Iec.Srv104.kr_periodic (R := []) s i).kept g), nodrop _ ((Iec.Srv104.kr_reap (R := []) s i).kept g)⟩

end Iec.Props.C06
