/-
C14 — FT 1.2 link framing: what the CS101 stacks write is well-formed, and only intact
frames for this station get past the header checks.

Model: Iec.Link101 (link_layer.c, serial_transceiver_ft_1_2.c), tied to the C code by the
differential of checks/link_common.py (real link layer over the simulated serial port).
-/
import Iec.Lemmas.Link101Parse
namespace Iec.Props.C14
open Iec.Link101

/-- C14, sending.  Every frame any role of the model hands to the serial port is a
well-formed FT 1.2 frame for the address width recorded in it: the observation type
admits nothing else (`TxFrame` carries the evidence, built by `fixedFrame_wf`,
`varFrame_wf`, `single_wf` for every address width 0, 1, 2, every control octet, address
and user-data string). -/
theorem every_tx_wellformed (f : TxFrame) : WellFormed f.aL f.bytes := f.wf

theorem secU_run_tx_wellformed (s : SecU) (q : List Nat) (now : Nat) :
    ∀ f, Obs.tx f ∈ (s.run q now).2.2 → WellFormed f.aL f.bytes := fun f _ => f.wf
theorem bal_run_tx_wellformed (s : Bal) (q : List Nat) (now : Nat) :
    ∀ f, Obs.tx f ∈ (s.run q now).2.2 → WellFormed f.aL f.bytes := fun f _ => f.wf
theorem priU_run_tx_wellformed (s : PriU) (q : List Nat) (now : Nat) :
    ∀ f, Obs.tx f ∈ (s.run q now).2.2 → WellFormed f.aL f.bytes := fun f _ => f.wf

/-- the address width recorded in a frame is the configured one -/
theorem sendFixed_width (l : LL) (fc a : Nat) (prm dir acd dfc : Bool) :
    ∀ f, Obs.tx f ∈ (l.sendFixed fc a prm dir acd dfc).2 → f.aL = l.p.addrLen := by
  intro f hf; simp [LL.sendFixed] at hf; rw [hf]
theorem sendVar_width (l : LL) (fc a : Nat) (prm dir acd dfc : Bool) (d : List Nat) :
    ∀ f, Obs.tx f ∈ (l.sendVar fc a prm dir acd dfc d).2 → f.aL = l.p.addrLen := by
  intro f hf
  unfold LL.sendVar at hf
  simp only at hf
  split at hf
  · simp at hf
  · simp at hf; rw [hf]

/-- the checksum really is the modulo-256 sum and both length octets the true length:
spelled out for the variable-length encoder -/
theorem varFrame_shape (aL c a : Nat) (d f : List Nat) (h : varFrame aL c a d = some f) :
    f = [0x68, 1 + aL + d.length, 1 + aL + d.length, 0x68] ++ (c :: addrBytes aL a ++ d) ++
        [sum8 (c :: addrBytes aL a ++ d), 0x16] ∧ 1 + aL + d.length ≤ 255 :=
  (varFrame_eq_some.mp h).symm

/-- what the named checks `sizeOk` and `checksumOk` in the statements below say -/
theorem sizeOk_iff (l : LL) (n : Nat) : sizeOk l n ↔ n = g l.buf 1 + 6 := Iec.Link101.sizeOk_iff l n

theorem checksumOk_var (l : LL) (hv : isVar l) :
    checksumOk l ↔ sum8 ((l.buf.drop 4).take (g l.buf 1)) = g l.buf (g l.buf 1 + 4) :=
  Iec.Link101.checksumOk_var l hv

theorem checksumOk_fixed (l : LL) (hv : ¬ isVar l) :
    checksumOk l ↔ sum8 ((l.buf.drop 1).take (1 + l.p.addrLen)) = g l.buf (2 + l.p.addrLen) :=
  Iec.Link101.checksumOk_fixed l hv

/-- C14, receiving, unbalanced slave (ParserHeaderSecondaryUnbalanced).  A frame gets past
the header checks only if it starts with 68 or 10; if variable-length, its two length octets
agree and give the number of octets actually received (`msgSize = L + 6`); its checksum is
the modulo-256 sum; and it is addressed to this station — or is a broadcast of user data
without reply (function code 4), the only service defined for the broadcast address. -/
theorem secHeader_ok_sound (l : LL) (n : Nat) (fc : Nat) (bc fcb fcv : Bool) (us : Nat) (ul : Int)
    (h : secHeader l n = .ok fc bc fcb fcv us ul) :
    (isVar l ∨ isFixed l) ∧ (isVar l → g l.buf 1 = g l.buf 2 ∧ n = g l.buf 1 + 6) ∧ checksumOk l ∧
    (frameAddress l = l.address ∨ (isBroadcast l ∧ fc = 4)) := by
  obtain ⟨hok, h4, h5, -, h8⟩ := (secHeader_ok_iff l n fc bc fcb fcv us ul).mp h
  refine ⟨hok.1, hok.2.1, hok.2.2, ?_⟩
  by_cases hb : isBroadcast l
  · exact Or.inr ⟨hb, (Verdict.ok.inj h8).1 ▸ h4 hb⟩
  · exact Or.inl (h5 hb)

/-- a state-change notification is the only thing a rejected frame can cause -/
def Quiet (o : List Obs) : Prop := ∀ x ∈ o, ∃ a n, x = Obs.st a n

theorem setState_quiet (s : SecU) (n : Nat) : Quiet (s.setState n).2 ∧
    (s.setState n).1.ll = s.ll ∧ (s.setState n).1.c1 = s.c1 ∧ (s.setState n).1.c2 = s.c2 ∧
    (s.setState n).1.expectedFcb = s.expectedFcb := by
  unfold SecU.setState
  split
  · refine ⟨?_, rfl, rfl, rfl, rfl⟩
    intro x hx; simp at hx; exact ⟨_, _, hx⟩
  · refine ⟨?_, rfl, rfl, rfl, rfl⟩
    intro x hx; cases hx

/-- C14, receiving: never passed on, never answered.  A frame that does not get past
the header checks causes no transmission and no application callback, and changes neither
the frame-count expectation nor the stored response nor the application queues; all that
can happen is the link-state notification. -/
theorem secU_reject_is_silent (s : SecU) (now n : Nat)
    (h : ∀ fc bc fcb fcv us ul, secHeader s.ll n ≠ .ok fc bc fcb fcv us ul) :
    Quiet (s.parse now n).2 ∧ (s.parse now n).1.ll = s.ll ∧ (s.parse now n).1.c1 = s.c1 ∧
    (s.parse now n).1.c2 = s.c2 ∧ (s.parse now n).1.expectedFcb = s.expectedFcb := by
  unfold SecU.parse
  simp only
  cases hh : secHeader s.ll n with
  | error => exact setState_quiet _ 1
  | ignore => exact ⟨(fun x hx => nomatch hx), rfl, rfl, rfl, rfl⟩
  | ok fc bc fcb fcv us ul => exact absurd hh (h fc bc fcb fcv us ul)

/-- C14, receiving, balanced station and unbalanced master
(HandleMessageBalancedAndPrimaryUnbalanced).  Anything but the single character is
handed to a link-layer role only with equal length octets, the true length and a correct
checksum; everything else is dropped without any effect (`bal_drop_is_silent`,
`priU_drop_is_silent`). -/
theorem parseBP_some_sound (l : LL) (n : Nat) (h : Hdr) (hp : parseBP l n = some h) (hs : h.single = false) :
    (isVar l ∨ isFixed l) ∧ (isVar l → g l.buf 1 = g l.buf 2 ∧ n = g l.buf 1 + 6) ∧ checksumOk l ∧
    h.c = hCtrl l ∧ h.address = frameAddress l := by
  have h5 : g l.buf 0 ≠ 0xe5 := by
    intro h5
    unfold parseBP at hp
    rw [if_pos h5] at hp
    cases hp; cases hs
  rw [parseBP_eq l n h5] at hp
  split at hp
  · rename_i hok
    cases hp
    exact ⟨hok.1, hok.2.1, hok.2.2, rfl, rfl⟩
  · cases hp

theorem bal_drop_is_silent (s : Bal) (now n : Nat) (h : parseBP s.ll n = none) :
    s.onMessage now n = (s, []) := by
  unfold Bal.onMessage; rw [h]
theorem priU_drop_is_silent (s : PriU) (now n : Nat) (h : parseBP s.ll n = none) :
    s.onMessage now n = (s, []) := by
  unfold PriU.onMessage; rw [h]

/-- C14, user data is passed through unmodified.  Feeding the octets of an encoded
variable-length frame to the transceiver (any previous buffer content) delimits exactly
that frame, leaves nothing in the port, and `userDataLength` octets from
`userDataStart = 5 + addressLength` of the buffer are the data that was encoded, for every
address width, control octet, address and data string.  That both parsers report this
position and length is `secHeader_varFrame`, `parseBP_varFrame` (Lemmas/Link101Parse). -/
theorem var_roundtrip (aL c a : Nat) (d f buf : List Nat) (hA : aL ≤ 2)
    (hv : varFrame aL c a d = some f) :
    readNext aL f buf = ([], f ++ buf.drop f.length, some f.length) ∧
    userDataOf (f ++ buf.drop f.length) (5 + aL) d.length = d := readNext_varFrame aL c a d f buf hA hv

/-! Tests: the statements are not vacuous. -/

example : varFrame 1 0x73 5 [1, 2, 3] = some [0x68, 5, 5, 0x68, 0x73, 5, 1, 2, 3, 0x7e, 0x16] := by decide
def demo (addr : Nat) (buf : List Nat) : LL := { p := ⟨1, 200, 1000, false, 500, by omega⟩, address := addr, buf := buf }
/-- the unbalanced slave with address 5 accepts that frame as confirmed user data with FCB=1 … -/
example : secHeader (demo 5 [0x68, 5, 5, 0x68, 0x73, 5, 1, 2, 3, 0x7e, 0x16]) 11 = .ok 3 false true true 6 3 := by decide
/-- … and rejects it with one octet of the data changed, with a wrong length pair, and for another station -/
example : secHeader (demo 5 [0x68, 5, 5, 0x68, 0x73, 5, 1, 9, 3, 0x7e, 0x16]) 11 = .error := by decide
example : secHeader (demo 5 [0x68, 5, 4, 0x68, 0x73, 5, 1, 2, 3, 0x7e, 0x16]) 11 = .error := by decide
example : secHeader (demo 6 [0x68, 5, 5, 0x68, 0x73, 5, 1, 2, 3, 0x7e, 0x16]) 11 = .ignore := by decide

end Iec.Props.C14
