import Iec.Lemmas.Srv104
import Iec.Model.Cli104
import Iec.Gen.Consts104
import Iec.Lemmas.Srv104Vr
import Iec.Lemmas.Cli104Vr
import Iec.Lemmas.Cli104Vs
import Iec.Lemmas.Cli104VsMix
import Iec.Lemmas.Srv104Ns
/-
C03 — CS104 wire format and send/receive sequence numbering are exact.

Statement (properties.jsonl): everything a CS104 role writes (for ASDUs ≤ 249 octets) is a
concatenation of well-formed APDUs (0x68, length octet = number of following octets in
4..253, valid I/S/U control field); the n-th I-format APDU carries N(S) = n-1 mod 32768
and every N(R) sent equals the number of I-format APDUs accepted so far, including across
the 32767→0 wrap.

Server model `Iec.Srv104` (every frame the model writes is produced by `sendI`, `sendS` or is one of the four fixed
U-frames).  Per operation: `seq_codec`, `sendI_spec`, `sendS_spec`, `u_frames`; that V(R) advances exactly when both
sequence checks pass is C05 `delivery` (same code path).  Over histories: `nth_iframe_ns` (any number of sends from any
V(S)), `ns_counts_up_on_the_wire` (every history of the whole server, `Lemmas/Srv104Ns.lean`), `nr_is_accepted_count` /
`vr_is_start_plus_accepted` (every sequence of received messages, `Lemmas/Srv104Vr.lean`).
Client model `Iec.Cli104` (cs104_connection.c, tied by its own differential): `client_sendI_spec`, `client_sendS_spec`, `client_u_frames`; over histories
`client_nr_is_accepted_count` (`Lemmas/Cli104Vr.lean`), `client_vs_is_sent_count`, `client_ns_counts_up_on_the_wire`
(`Lemmas/Cli104Vs.lean`: every sequence of send calls, accepted or refused), `client_ns_counts_up_interleaved`
(`Lemmas/Cli104VsMix.lean`: sends interleaved with any received messages).
-/
namespace Iec.Props.C03
open Iec.Srv104 Iec.KWindow

/-- the two-octet encoding of a 15-bit sequence number and the receiver's decoding are inverse -/
theorem seq_codec (n : Nat) (h : n < 32768) :
    seqLo n < 256 ∧ seqHi n < 256 ∧ seqLo n % 2 = 0 ∧
    (seqHi n * 0x100 + (seqLo n &&& 0xfe)) / 2 = n ∧ (seqLo n + seqHi n * 0x100) / 2 = n :=
  seqCodec n h

/-- a well-formed APDU: start octet, length octet = number of following octets, 4..253 -/
def WellFormed (f : List Nat) : Prop :=
  f.length ≥ 6 ∧ f.getD 0 0 = 0x68 ∧ f.getD 1 0 = f.length - 2 ∧ 4 ≤ f.length - 2 ∧ f.length - 2 ≤ 253

/-- `sendIMessage`: what is written is a well-formed I-format APDU carrying N(S) = V(S) and
N(R) = V(R); V(S) advances by one modulo 32768 exactly when the write succeeded; nothing
else is written. -/
theorem sendI_spec (s : Slave) (i : Nat) (hi : i < s.conns.length) (asdu : List Nat) (hl : asdu.length ≤ 249)
    (q : Option (Nat × Nat)) (hvs : (s.conn i).vs < 32768) (hvr : (s.conn i).vr < 32768) :
    let c := s.conn i
    let frame := [0x68, asdu.length + 4, seqLo c.vs, seqHi c.vs, seqLo c.vr, seqHi c.vr] ++ asdu
    WellFormed frame ∧ frame.getD 2 0 % 2 = 0 ∧
    ((c.sock.writeFail = false ∧ c.sock.peerClosed = false) →
        (sendI s i asdu q).log = s.log ++ [.tx i frame] ∧ ((sendI s i asdu q).conn i).vs = (c.vs + 1) % 32768) ∧
    (¬ (c.sock.writeFail = false ∧ c.sock.peerClosed = false) →
        (sendI s i asdu q).log = s.log ∧ ((sendI s i asdu q).conn i).vs = c.vs ∧
        ((sendI s i asdu q).conn i).isRunning = false) := by
  have hc := seq_codec (s.conn i).vs hvs
  have hm : (asdu.length + 4) % 256 = asdu.length + 4 := by omega
  refine ⟨⟨by simp, by simp, by simp, by simp, by simp; omega⟩, by simpa using hc.2.2.1, ?_, ?_⟩
  · rintro ⟨h1, h2⟩
    rw [sendI_ok s i asdu q h1 h2]
    exact ⟨by rw [← hm]; rfl, congrArg Conn.vs (conn_setConn _ i _ hi)⟩
  · intro h
    rw [sendI_fail s i asdu q h, conn_setConn s i _ hi]
    exact ⟨rfl, rfl, rfl⟩

/-- `_sendSMessage` writes a well-formed S-format APDU carrying N(R) = V(R) -/
theorem sendS_spec (s : Slave) (i : Nat) (h1 : (s.conn i).sock.writeFail = false) (h2 : (s.conn i).sock.peerClosed = false) :
    (sendS s i).log = s.log ++ [.tx i [0x68, 0x04, 0x01, 0, seqLo (s.conn i).vr, seqHi (s.conn i).vr]] := by
  rw [sendS_ok s i h1 h2]; rfl

/-- the U-format frames the server writes are the four fixed six-octet frames -/
theorem u_frames : WellFormed STARTDT_CON ∧ WellFormed STOPDT_CON ∧ WellFormed TESTFR_CON ∧ WellFormed TESTFR_ACT ∧
    STARTDT_CON.getD 2 0 = 0x0b ∧ STOPDT_CON.getD 2 0 = 0x23 ∧ TESTFR_CON.getD 2 0 = 0x83 ∧ TESTFR_ACT.getD 2 0 = 0x43 := by
  unfold WellFormed; decide

def iframe (vs vr : Nat) (asdu : List Nat) : List Nat :=
  [0x68, asdu.length + 4, seqLo vs, seqHi vs, seqLo vr, seqHi vr] ++ asdu

theorem sendI_keeps (s : Slave) (i : Nat) (hi : i < s.conns.length) (asdu : List Nat) (q : Option (Nat × Nat)) :
    ((sendI s i asdu q).conn i).sock = (s.conn i).sock ∧ ((sendI s i asdu q).conn i).vr = (s.conn i).vr ∧
    (sendI s i asdu q).conns.length = s.conns.length := by
  rcases sendI_cases s i asdu q with e | e <;> rw [e]
  · rw [conn_setConn s i _ hi]; exact ⟨rfl, rfl, setConn_len _ _ _⟩
  · rw [conn_setConn (emit s _) i _ hi]; exact ⟨rfl, rfl, setConn_len _ _ _⟩

/-- The n-th I-format APDU of a connection carries N(S) = (s0 + n - 1) mod 32768, across the wrap: any number of
sends from any starting V(S), on a socket that accepts writes, write exactly the frames with consecutive send sequence
numbers modulo 32768 (and N(R) = V(R), unchanged by sending), nothing else. -/
theorem nth_iframe_ns (asdus : List (List Nat)) : ∀ (s : Slave) (i : Nat), i < s.conns.length →
    (∀ a ∈ asdus, a.length ≤ 249) → (s.conn i).sock.writeFail = false → (s.conn i).sock.peerClosed = false →
    (s.conn i).vs < 32768 → (s.conn i).vr < 32768 →
    (asdus.foldl (fun s a => sendI s i a none) s).log =
      s.log ++ (asdus.zipIdx.map fun (a, j) => Obs.tx i (iframe (((s.conn i).vs + j) % 32768) (s.conn i).vr a)) := by
  induction asdus with
  | nil => intro s i _ _ _ _ _ _; simp
  | cons a rest ih =>
    intro s i hi hl h1 h2 hvs hvr
    obtain ⟨_, _, hok, _⟩ := sendI_spec s i hi a (hl a (by simp)) none hvs hvr
    obtain ⟨hlog, hvs'⟩ := hok ⟨h1, h2⟩
    obtain ⟨k1, k2, k3⟩ := sendI_keeps s i hi a none
    have := ih (sendI s i a none) i (by rw [k3]; exact hi) (fun x hx => hl x (by simp [hx]))
      (by rw [k1]; exact h1) (by rw [k1]; exact h2) (by rw [hvs']; exact Nat.mod_lt _ (by decide)) (by rw [k2]; exact hvr)
    simp only [List.foldl_cons]
    rw [this, hlog, hvs', k2]
    simp only [List.append_assoc, List.singleton_append]
    congr 1
    rw [List.zipIdx_cons]
    simp only [List.map_cons, Nat.add_zero]
    have hm : (s.conn i).vs % 32768 = (s.conn i).vs := Nat.mod_eq_of_lt hvs
    rw [hm]
    congr 1
    rw [List.zipIdx_succ, List.map_map]
    apply List.map_congr_left
    intro x _
    simp only [Function.comp]
    congr 2
    omega

/-- Every N(R) the server sends equals the number of I-format APDUs accepted so far, modulo 32768, including across
the wrap: after any sequence of received messages on a connection (I-, S-, U-format, well-formed or not), V(R) is
V(R) at the start plus the number of accepted I-format APDUs (`vr_counts_accepted`; V(R) is 0 when the connection is
opened), and the S-format APDU then written carries exactly that value (`sendS_spec`); I-format APDUs carry it by
`sendI_spec`. -/
theorem nr_is_accepted_count (s : Slave) (i : Nat) (hi : i < s.conns.length) (ms : List (List Nat))
    (h0 : (s.conn i).vr = 0) (h1 : ((recvAll s i ms).conn i).sock.writeFail = false)
    (h2 : ((recvAll s i ms).conn i).sock.peerClosed = false) :
    (sendS (recvAll s i ms) i).log = (recvAll s i ms).log ++
      [.tx i [0x68, 0x04, 0x01, 0, seqLo (acceptedCount s i ms % 32768), seqHi (acceptedCount s i ms % 32768)]] := by
  have hv := vr_counts_accepted ms s i hi (by rw [h0]; decide)
  rw [h0, Nat.zero_add] at hv
  rw [sendS_spec _ i h1 h2, hv]

/-- the counter itself, from any start value -/
theorem vr_is_start_plus_accepted (s : Slave) (i : Nat) (hi : i < s.conns.length) (ms : List (List Nat))
    (hv : (s.conn i).vr < 32768) :
    ((recvAll s i ms).conn i).vr = ((s.conn i).vr + acceptedCount s i ms) % 32768 := vr_counts_accepted ms s i hi hv

/-- The I-format APDUs of a connection are numbered 0, 1, 2, ... modulo 32768 on the wire.  From a freshly created
server, after any sequence of ticks (accept, reception, transmission of events and replies, time-outs, reaping), enqueues
and environment events: take ANY I-format APDU in the wire log, on slot `c`; its N(S) field equals the number of I-format
APDUs written on that slot before it since the slot's last OPENED event, modulo 32768 (`ifr`). So consecutive I-format APDUs
of one connection carry consecutive sequence numbers, the first one 0, the wrap being the `% 32768`; and V(S) of every
connection in use is that count. -/
theorem ns_counts_up_on_the_wire (p : Params) (gs : List (String × List (Bool × List Nat))) (ops : List LOp) :
    (∀ l1 c b l2, (ops.foldl LOp.apply (create p gs)).log = l1 ++ Obs.tx c b :: l2 → isI b → frameNS b = ifr l1 c % 32768) ∧
    (∀ j, ((ops.foldl LOp.apply (create p gs)).conn j).isUsed = true →
      ((ops.foldl LOp.apply (create p gs)).conn j).vs = ifr (ops.foldl LOp.apply (create p gs)).log j % 32768) :=
  ⟨(run_ninv p gs ops).2, (run_ninv p gs ops).1⟩

/-- non-vacuity on a concrete history: connect, STARTDT act, two events with k = 2 - the two I-format APDUs on the wire
carry N(S) 0 and 1 -/
example : let s := ([LOp.env (lenvPending {}), .tick, .env (lenvFeed 0 [0x68, 4, 7, 0, 0, 0]), .tick,
      .enqueue [1, 1, 3, 0, 1, 0, 5, 0, 0, 1], .tick, .enqueue [1, 1, 3, 0, 1, 0, 6, 0, 0, 1], .tick] : List LOp).foldl LOp.apply (create lifeDemoParams [])
    s.log.filterMap (fun o => match o with | .tx _ f => if f.getD 2 1 % 2 = 0 then some (frameNS f) else none | _ => none) = [0, 1] ∧
    ifr s.log 0 = 2 := by decide

section Client
open Iec.Cli104

/-- `Iec.Cli104.Writable`, written out where the property's theorems are read -/
def CliWritable (c : Cli) : Prop := (c.phase = 2 ∨ c.phase = 3) ∧ c.sock.writeFail = false ∧ c.sock.peerClosed = false

theorem cli_write_ok (c : Cli) (h : CliWritable c) (b : List Nat) : Iec.Cli104.write c b = Iec.Cli104.emit c (.tx b) :=
  write_writable c h b

/-- Client, I-format.  `CS104_Connection_sendASDU` on a running connection whose socket accepts writes, with room in the
window, writes exactly one well-formed I-format APDU carrying N(S) = V(S) and N(R) = V(R); V(S) advances by one modulo
32768 (the 32767 -> 0 wrap is this `%`); with a full window nothing is written and the call reports failure. -/
theorem client_sendI_spec (c : Cli) (asdu : List Nat) (hl : asdu.length ≤ 249) (hw : CliWritable c) (hr : c.running = true)
    (hvs : c.vs < 32768) :
    let frame := [0x68, asdu.length + 4, seqLo c.vs, seqHi c.vs, seqLo c.vr, seqHi c.vr] ++ asdu
    WellFormed frame ∧ frame.getD 2 0 % 2 = 0 ∧
    (isFull (c.maxSent.getD c.p.k) c.win = false →
      (sendAsdu c asdu).2 = true ∧ (sendAsdu c asdu).1.log = c.log ++ [.tx frame] ∧
      (sendAsdu c asdu).1.vs = (c.vs + 1) % 32768 ∧ (sendAsdu c asdu).1.vr = c.vr) ∧
    (isFull (c.maxSent.getD c.p.k) c.win = true → sendAsdu c asdu = (c, false)) := by
  have hc := seq_codec c.vs hvs
  refine ⟨⟨by simp, by simp, by simp, by simp, by simp; omega⟩, by simpa using hc.2.2.1, ?_, ?_⟩ <;> intro hf <;>
    rw [sendAsdu_eq]
  · -- `frame` is `iFrame c asdu`, whose length octet is taken modulo 256
    have hm : (asdu.length + 4) % 256 = asdu.length + 4 :=
      Nat.mod_eq_of_lt (Nat.lt_of_le_of_lt (Nat.add_le_add_right hl 4) (by decide))
    rw [if_pos ⟨hr, hf⟩]
    refine ⟨rfl, ?_, rfl, rfl⟩
    show (Iec.Cli104.write c (Iec.Cli104.iFrame c asdu)).log = _
    rw [cli_write_ok c hw, Iec.Cli104.iFrame, hm]
    rfl
  · rw [if_neg fun h => Bool.noConfusion (hf.symm.trans h.2)]

/-- Client, S-format.  The acknowledgement the client writes carries N(R) = V(R) and clears the count of
unacknowledged received I-frames. -/
theorem client_sendS_spec (c : Cli) (hw : CliWritable c) :
    (confirmOutstanding c).log = c.log ++ [.tx [0x68, 4, 1, 0, seqLo c.vr, seqHi c.vr]] ∧
    (confirmOutstanding c).unconf = 0 ∧ (confirmOutstanding c).vr = c.vr := by
  rw [confirm_writable c hw]
  exact ⟨rfl, rfl, rfl⟩

/-- the U-format frames the client writes -/
theorem client_u_frames : WellFormed Iec.Cli104.STARTDT_ACT ∧ WellFormed Iec.Cli104.STOPDT_ACT ∧
    Iec.Cli104.STARTDT_ACT.getD 2 0 = 0x07 ∧ Iec.Cli104.STOPDT_ACT.getD 2 0 = 0x13 := by
  unfold WellFormed; decide

/-- Client, N(R) over every message history.  Whatever sequence of messages the client has received since V(R) was
0 (connection opened), the acknowledgement it then writes carries N(R) = number of I-format APDUs that passed both
sequence checks, modulo 32768 (`Lemmas/Cli104Vr.lean`: V(R) changes only then). -/
theorem client_nr_is_accepted_count (c : Cli) (ms : List (List Nat)) (h0 : c.vr = 0) (hw : CliWritable (recvAllC c ms)) :
    (confirmOutstanding (recvAllC c ms)).log = (recvAllC c ms).log ++
      [.tx [0x68, 4, 1, 0, seqLo (acceptedCountC c ms % 32768), seqHi (acceptedCountC c ms % 32768)]] := by
  have hv := vr_counts_acceptedC ms c (by rw [h0]; decide)
  rw [h0, Nat.zero_add] at hv
  rw [(client_sendS_spec _ hw).1, hv]

/-- non-vacuity: two in-sequence I-format APDUs, one with a wrong N(S) in between (which changes nothing) -/
example : acceptedCountC ({ p := { k := 12, w := 8, t0 := 10, t1 := 15, t2 := 10, t3 := 20, asduHdr := 6 } } : Cli)
    [[0x68, 14, 0, 0, 0, 0, 1, 1, 3, 0, 1, 0, 1, 0, 0, 1], [0x68, 14, 8, 0, 0, 0, 1, 1, 3, 0, 1, 0, 1, 0, 0, 1],
     [0x68, 14, 2, 0, 0, 0, 1, 1, 3, 0, 1, 0, 1, 0, 0, 1]] = 2 := by decide

/-- Client, V(S) over every sequence of send calls.  Whatever sequence of ASDUs the application hands to
`CS104_Connection_sendASDU` since V(S) was 0 (connection opened) - accepted, or refused because the connection is not
running or the window is full - V(S) is the number of accepted calls modulo 32768 (`Lemmas/Cli104Vs.lean`). -/
theorem client_vs_is_sent_count (c : Cli) (as : List (List Nat)) (h0 : c.vs = 0) :
    (sendAll c as).vs = sentCount c as % 32768 := by
  have := vs_counts_sentC as c (by rw [h0]; decide)
  rwa [h0, Nat.zero_add] at this

/-- Client, N(S) on the wire over every sequence of send calls.  On a socket that accepts writes, from V(S) = 0, the
calls append to the wire exactly one I-format APDU per accepted call and nothing else, and the j-th of them
(j = 0, 1, 2, ...) carries N(S) = j mod 32768: no number is skipped or used twice, whichever calls were refused in
between. (A write the socket refuses is not on the wire although V(S) advances: the client ignores the result of
`writeToSocket`, and the connection is then closed by the peer's sequence check or by t1; see DESIGN 11.0.) -/
theorem client_ns_counts_up_on_the_wire (c : Cli) (as : List (List Nat)) (h0 : c.vs = 0) (hw : CliWritable c) :
    ∃ fr : List (List Nat), (sendAll c as).log = c.log ++ fr.map Iec.Cli104.Obs.tx ∧ fr.length = sentCount c as ∧
      ∀ j, j < fr.length → frameNS (fr.getD j []) = j % 32768 ∧ (fr.getD j []).getD 2 0 % 2 = 0 := by
  obtain ⟨fr, h1, h2, h3⟩ := ns_on_the_wireC as c (by rw [h0]; decide) hw
  refine ⟨fr, h1, h2, fun j hj => ?_⟩
  have := h3 j hj
  rwa [h0, Nat.zero_add] at this

/-- non-vacuity: k = 2, three calls on a running, writable connection: two accepted, the third refused (window full) -/
example : sentCount ({ p := { k := 2, w := 8, t0 := 10, t1 := 15, t2 := 10, t3 := 20, asduHdr := 6 }, phase := 3, running := true } : Cli) [[100, 1, 3, 0, 1, 0, 1, 0, 0, 1], [100, 1, 3, 0, 1, 0, 2, 0, 0, 1], [100, 1, 3, 0, 1, 0, 3, 0, 0, 1]] = 2 := by
  decide

/-- Client, N(S) on the wire over every history of an open connection.  From V(S) = 0 on a socket that accepts
writes, whatever the application does (`MOp`: send calls accepted or refused, STARTDT / STOPDT requests) and whatever the
connection thread does in between (received messages of any kind - acknowledgements that release the window, I-format
APDUs, U-format requests answered on the same socket, malformed ones -, passes over the t1 / t2 / t3 timers with their
S-format and TESTFR frames, the `w` test), in any order and number, the I-format APDUs the client has written carry
N(S) = 0, 1, 2, ... modulo 32768 in the order they were written, one per accepted call (`MOp.apply_cases`: only an
accepted `sendAsdu` touches V(S) or writes an I-format APDU). -/
theorem client_ns_counts_up_interleaved (c : Cli) (ops : List MOp) (h0 : c.vs = 0) (hl : c.log = [])
    (hw : CliWritable c) :
    nsLog (mixRun c ops).log = (List.range (mixSent c ops)).map (fun j => j % 32768) := by
  rw [ns_on_the_wire_mix ops c (by rw [h0]; decide) hw, hl, h0]
  simp only [Nat.zero_add]
  rfl

/-- non-vacuity: k = 2; two sends, a third refused, a timer pass, an S-format acknowledgement of both, then the third is accepted, STOPDT -/
example : mixSent ({ p := { k := 2, w := 8, t0 := 10, t1 := 15, t2 := 10, t3 := 20, asduHdr := 6 }, phase := 3, running := true } : Cli)
    [.send [100, 1, 3, 0, 1, 0, 1, 0, 0, 1], .send [100, 1, 3, 0, 1, 0, 2, 0, 0, 1], .send [100, 1, 3, 0, 1, 0, 3, 0, 0, 1],
     .timers, .recv [0x68, 4, 1, 0, 4, 0], .ackW, .send [100, 1, 3, 0, 1, 0, 3, 0, 0, 1], .stopdt] = 3 := by
  decide

end Client

/-- the four fixed U-format frames of the model are the arrays in the compiled source, and the length limits are the
source's (translator tie, regenerated on every run) -/
theorem u_frames_match_source :
    STARTDT_CON = Iec.Gen.startdtCon ∧ STOPDT_CON = Iec.Gen.stopdtCon ∧ TESTFR_CON = Iec.Gen.testfrCon ∧
    TESTFR_ACT = Iec.Gen.testfrAct ∧ Iec.Gen.apciLength = 6 ∧ Iec.Gen.maxAsduLength = 249 := by
  decide

end Iec.Props.C03
