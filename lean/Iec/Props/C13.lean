import Iec.Lemmas.Srv104
import Iec.Lemmas.HpQueue
import Iec.Lemmas.MsgQueueOrder
import Iec.Props.C06
import Iec.Gen.Consts104
import Iec.Lemmas.Srv104HWf
/-
C13 — Event ordering and response priority on a CS104 server connection.

Statement (properties.jsonl): with a single open connection in a redundancy group, event
ASDUs are transmitted in enqueue order and after a reconnection transmission resumes with
the oldest unacknowledged event; replies to client requests are transmitted in the order
the application issued them and ahead of all events still waiting, and are never reordered
or silently dropped (lost only if the send call reported failure, data transfer is
restarted, or the connection ends).

Theorems on the server model (step properties): a reply is written to the socket at once
only when nothing is parked before it (`direct_only_if_nothing_parked`, the repaired
`sendASDUInternal`), otherwise it goes to the response queue or the call reports failure
(`parked_or_refused`); `sendWaitingASDUs` sends no event while a response is parked behind a
full window (`responses_before_events`).

The response (high-priority) ring is PROVED to be a FIFO: `reply_ring_refines_fifo` - the byte-offset ring
with its three pointers refines a list queue (layout invariant `HpInv`, `enqueue_refines`, `getNext_refines`),
and `reply_ring_fifo` - for every ring size, every reply size and every interleaving of enqueue and dequeue
(hence every wrap position), what was queued plus what was accepted equals what was handed out plus what is
still queued, in order; an empty answer means empty.  The model is the code as repaired by 6ce2fc6 (no second
wrap over queued replies) and is tied to it by the direct ring differential (`hq.*` operations) and the model-free
FIFO oracle.

The EVENT ring: `events_transmitted_in_enqueue_order` - for every ring state satisfying the layout invariant, any
list of enqueues (any sizes, any wrap position, any number of displaced entries) followed by any number of
`getNextWaitingASDU` calls hands out, oldest first and each once, the waiting entries of (old content ++ new
ASDUs) minus a displaced prefix (`Lemmas/MsgQueueOrder.lean`: `drain_spec`, `enqueueAll_refines`, on top of the
ring refinement of C06); `fresh_queue_order` - from an empty ring the transmitted ASDUs are a contiguous run
`(ds.drop k).take n` of the enqueued ones; `resume_with_oldest_unconfirmed` - after the whole-ring re-arm
`MessageQueue_setWaitingForTransmissionWhenNotConfirmed` (the source before 9288ed1; the repaired source re-arms the
entries of the ended connection one by one, C06) the next entry handed out is the oldest one not confirmed.  The
coupling of these queue operations with the connection state machine (when `sendWaitingASDUs` runs) is in the server
model and tied differentially.
-/
namespace Iec.Props.C13
open Iec.Srv104 Iec.KWindow Iec.Queues

/-- a reply is transmitted immediately only when no earlier reply is parked: with one parked, `sendASDUInternal` writes
nothing to the socket (the log of observations is unchanged) -/
theorem direct_only_if_nothing_parked (s : Slave) (i : Nat) (asdu : List Nat)
    (hp : (s.grp (s.gidx i)).highQ.count ≠ 0) :
    (sendAsduInternal s i asdu).1.log = s.log := by
  unfold sendAsduInternal
  simp only
  split
  · have : ((s.grp (s.gidx i)).highQ.count == 0) = false := by simpa using hp
    simp [this, Slave.setGrp]
  · rfl

/-- with earlier replies parked the new reply is handed to the response queue; the call's
result is the queue's verdict (false = refused, reported to the application) -/
theorem parked_or_refused (s : Slave) (i : Nat) (asdu : List Nat) (hst : (s.conn i).state = 1)
    (hp : (s.grp (s.gidx i)).highQ.count ≠ 0) :
    (sendAsduInternal s i asdu).2 = ((s.grp (s.gidx i)).highQ.enqueue asdu).2 ∧
    (sendAsduInternal s i asdu).1.conns = s.conns := by
  unfold sendAsduInternal
  have : ((s.grp (s.gidx i)).highQ.count == 0) = false := by simpa using hp
  simp [hst, this, Slave.setGrp]

/-- `sendWaitingASDUs` serves the response queue first: while a response is parked and the window is full,
`sendWaitingHigh` sends nothing and answers `false`, on which `sendWaitingASDUs` stops - no event overtakes the response -/
theorem responses_before_events (s : Slave) (i : Nat) (fuel : Nat)
    (hq : (s.grp (s.gidx i)).highQ.count > 0) (hw : isFull (s.conn i).maxSent (s.conn i).win = true) :
    sendWaitingHigh s i (fuel + 1) = (s, false) := by
  unfold sendWaitingHigh
  simp [hq, hw]

/-- C13, replies are never reordered or silently dropped (ring level).  From a freshly created response
ring of any size `n >= 1`, after ANY history of enqueue / dequeue operations: the replies accepted by the ring,
in order, are exactly the replies handed out, in order, followed by the replies still queued. -/
theorem reply_ring_fifo (n : Nat) (hn : 1 ≤ n) (ops : List HpOp) :
    ∃ up low, HpInv (hpRun (HpQueue.create n) ops).1 up low ∧
      (hpRun (HpQueue.create n) ops).2.1 = (hpRun (HpQueue.create n) ops).2.2 ++ HpInv.abs up low := by
  obtain ⟨up, low, h, heq⟩ := hp_fifo ops (HpQueue.create n) [] [] (HpInv.empty n hn)
  exact ⟨up, low, h, by simpa [HpInv.abs] using heq⟩

/-- one operation at a time: the ring refines the list queue `HpInv.abs` -/
theorem reply_ring_refines_fifo (q : HpQueue) (up low : List HpEntry) (h : HpInv q up low) :
    (∀ d, ((q.enqueue d).2 = true → ∃ up' low', HpInv (q.enqueue d).1 up' low' ∧ HpInv.abs up' low' = HpInv.abs up low ++ [d]) ∧
          ((q.enqueue d).2 = false → HpInv (q.enqueue d).1 up low)) ∧
    (HpInv.abs up low = [] → q.getNext.2 = none) ∧
    (∀ x xs, HpInv.abs up low = x :: xs → q.getNext.2 = some x ∧ ∃ up' low', HpInv q.getNext.1 up' low' ∧ HpInv.abs up' low' = xs) := by
  refine ⟨fun d => enqueue_refines q up low h d, ?_, ?_⟩
  · intro he
    have hup : up = [] := by cases up with | nil => rfl | cons a b => simp [HpInv.abs] at he
    rw [getNext_empty q up low h hup]
  · intro x xs he
    cases up with
    | nil => have := h.lowup rfl; subst this; simp [HpInv.abs] at he
    | cons u0 rest =>
      obtain ⟨q', hg, hne, hnil⟩ := getNext_refines q u0 rest low h
      have hx : u0.2 = x ∧ (rest ++ low).map Prod.snd = xs := by simpa [HpInv.abs] using he
      rw [hg]
      refine ⟨by rw [hx.1], ?_⟩
      by_cases hr : rest = []
      · subst hr; exact ⟨low, [], hnil rfl, by simpa [HpInv.abs] using hx.2⟩
      · exact ⟨rest, low, hne hr, by simpa [HpInv.abs] using hx.2⟩

/-- non-vacuity: the invariant holds for a fresh ring, and a small history behaves as the list queue says -/
example : HpInv (HpQueue.create 1) [] [] := HpInv.empty 1 (by omega)
example : (hpRun (HpQueue.create 1) [.enq [1, 2], .enq [3], .deq, .enq [4, 5, 6], .deq, .deq, .deq]).2 =
    ([[1, 2], [3], [4, 5, 6]], [[1, 2], [3], [4, 5, 6]]) := by decide

/-- Event ASDUs are transmitted in the order they were enqueued: for every ring state under the layout invariant,
every list of enqueues and every number `n` of `getNextWaitingASDU` calls, the ASDUs handed out are the first `n`
waiting entries of (old content followed by the new ASDUs) minus a displaced prefix of `k` oldest entries - in
that order, each once, octet for octet. -/
theorem events_transmitted_in_enqueue_order (q : MsgQueue) (up low : List MEntry) (h : MqInv q up low)
    (ds : List (List Nat)) (hd : ∀ d ∈ ds, d.length ≤ 250) (hs : 266 ≤ q.size) :
    ∃ k, ∀ n, (drain n (enqueueAll q ds)).2.map (fun r => r.2.2) =
      ((((content up low ++ ds.map (fun d => (1, d))).drop k).filter (fun x : Nat × List Nat => x.1 == 1)).take n).map (fun x : Nat × List Nat => x.2) := by
  obtain ⟨up', low', k, hinv, hc⟩ := enqueueAll_refines ds q up low h hd hs
  refine ⟨k, fun n => ?_⟩
  obtain ⟨d1, _⟩ := drain_spec n _ up' low' hinv
  have := congrArg (List.map (fun x : Nat × List Nat => x.2)) d1
  simp only [List.map_map] at this
  have e1 : ((fun x : Nat × List Nat => x.2) ∘ fun r : Nat × Nat × List Nat => (r.1, r.2.2)) = fun r => r.2.2 := rfl
  rw [e1] at this
  rw [this, ← hc]
  unfold content
  rw [List.filter_map, ← List.map_take, List.map_map]
  rfl

/-- from an empty ring: what is transmitted is a contiguous run of what was enqueued, in order -/
theorem fresh_queue_order (m : Nat) (hm : 1 ≤ m) (ds : List (List Nat)) (hd : ∀ d ∈ ds, d.length ≤ 250) :
    ∃ k, ∀ n, (drain n (enqueueAll (MsgQueue.create m) ds)).2.map (fun r => r.2.2) = (ds.drop k).take n := by
  have hs : 266 ≤ (MsgQueue.create m).size := by
    show 266 ≤ m * (HDR + 256)
    simp only [HDR]; omega
  obtain ⟨k, hk⟩ := events_transmitted_in_enqueue_order (MsgQueue.create m) [] [] (Iec.Props.C06.create_inv m) ds hd hs
  refine ⟨k, fun n => ?_⟩
  rw [hk n]
  simp only [content, List.append_nil, List.map_nil, List.nil_append, ← List.map_drop]
  rw [List.filter_map]
  have : (List.filter ((fun x : Nat × List Nat => x.1 == 1) ∘ fun d => (1, d)) (List.drop k ds)) = List.drop k ds := by
    apply List.filter_eq_self.mpr
    intro a _; rfl
  rw [this, ← List.map_take, List.map_map]
  have hid : ((fun x : Nat × List Nat => x.2) ∘ fun d : List Nat => (1, d)) = id := rfl
  rw [hid, List.map_id]

/-- After a reconnection transmission resumes with the oldest unacknowledged event: the whole-ring re-arm
`MessageQueue_setWaitingForTransmissionWhenNotConfirmed` (source before 9288ed1) turns the sent-but-unconfirmed entries
back into waiting ones, so the next entry handed out is the oldest entry that is not confirmed -/
theorem resume_with_oldest_unconfirmed (q : MsgQueue) (up low : List MEntry) (h : MqInv q up low) :
    match (up ++ low).find? (fun x => x.2.st == 1 || x.2.st == 2) with
    | none => q.setWaitingWhenNotConfirmed.getNextWaiting.2 = none
    | some x => q.setWaitingWhenNotConfirmed.getNextWaiting.2 = some (x.2.id, x.1, x.2.data) := by
  have hinv := setWaiting_refines q up low h
  have hg := getNextWaiting_refines _ _ _ hinv
  rw [← List.map_append, List.find?_map] at hg
  have hp : ((fun x : MEntry => x.2.st == 1) ∘ rearm) = (fun x : MEntry => x.2.st == 1 || x.2.st == 2) := by
    funext x
    simp only [Function.comp, rearm, rearmE]
    by_cases h2 : x.2.st = 2
    · simp [h2]
    · simp [h2]
  rw [hp] at hg
  cases hf : (up ++ low).find? (fun x => x.2.st == 1 || x.2.st == 2) with
  | none =>
    rw [hf] at hg
    simp only [Option.map_none] at hg
    simp only
    rw [hg]
  | some x =>
    rw [hf] at hg
    simp only [Option.map_some] at hg
    simp only
    rw [hg.1]
    show some ((rearm x).2.id, (rearm x).1, (rearm x).2.data) = _
    simp only [rearm, rearmE]
    split <;> rfl

/-- the reply ring of the model has the entry header (`sizeof(uint16_t)`) and the size `HighPriorityASDUQueue_create`
computes in the compiled source (`Iec.Gen.*` is generated from it) -/
theorem reply_ring_geometry_matches_source :
    (HpQueue.create 1).size = Iec.Gen.hpSize1 ∧ (HpQueue.create 5).size = Iec.Gen.hpSize5 ∧
    Iec.Gen.hpSize1 = Iec.Gen.hpEntryHeader + 256 := by
  decide

/-- The reply ring and the event ring of every redundancy group / connection are well-formed in every reachable server
state: from a freshly created server (queues for at least one entry), after any sequence of ticks, enqueues, restarts and
environment events both rings satisfy their layout invariants - the hypotheses of `reply_ring_refines_fifo`,
`events_transmitted_in_enqueue_order` and `resume_with_oldest_unconfirmed` hold in every reachable state. -/
theorem server_rings_wellformed (p : Iec.Srv104.Params) (gs : List (String × List (Bool × List Nat)))
    (hl : 1 ≤ p.lowQ) (hh : 1 ≤ p.highQ) (ops : List Iec.Srv104.WOp) (g : Nat) :
    (∃ up low, HpInv ((ops.foldl Iec.Srv104.WOp.apply (Iec.Srv104.create p gs)).grp g).highQ up low) ∧
    (∃ up low, MqInv ((ops.foldl Iec.Srv104.WOp.apply (Iec.Srv104.create p gs)).grp g).lowQ up low) :=
  ⟨(Iec.Srv104.run_hgok p gs hh ops).2 g, ((Iec.Srv104.run_gok p gs hl ops).2 g).1⟩

/-- In every reachable server state the event transmitted next is the oldest waiting one: whatever the history, the
entry `MessageQueue_getNextWaitingASDU` hands to the transmission path of a group is the first waiting entry of the ring in
FIFO (= enqueue) order, with its own id and octets (that it is marked sent and nothing else changes: C06
`next_waiting_is_oldest_waiting`) -/
theorem reachable_next_event_is_oldest_waiting (p : Iec.Srv104.Params) (gs : List (String × List (Bool × List Nat)))
    (hl : 1 ≤ p.lowQ) (ops : List Iec.Srv104.WOp) (g : Nat) :
    ∃ up low, MqInv ((ops.foldl Iec.Srv104.WOp.apply (Iec.Srv104.create p gs)).grp g).lowQ up low ∧
      ((ops.foldl Iec.Srv104.WOp.apply (Iec.Srv104.create p gs)).grp g).lowQ.toList = (up ++ low).map Prod.snd ∧
      match (up ++ low).find? (fun x => x.2.st == 1) with
      | none => ((ops.foldl Iec.Srv104.WOp.apply (Iec.Srv104.create p gs)).grp g).lowQ.getNextWaiting.2 = none
      | some x => ((ops.foldl Iec.Srv104.WOp.apply (Iec.Srv104.create p gs)).grp g).lowQ.getNextWaiting.2 =
          some (x.2.id, x.1, x.2.data) := by
  obtain ⟨up, low, h⟩ := ((Iec.Srv104.run_gok p gs hl ops).2 g).1
  refine ⟨up, low, h, toList_eq _ up low h, ?_⟩
  have := getNextWaiting_refines _ up low h
  cases hf : (up ++ low).find? (fun x => x.2.st == 1) with
  | none => rw [hf] at this; simp only at this ⊢; rw [this]
  | some x => rw [hf] at this; simp only at this ⊢; rw [this.1]

/-- In every reachable server state the reply transmitted next is the oldest parked one (the reply ring is a FIFO in
every reachable state, not only under a hypothesis) -/
theorem reachable_next_reply_is_oldest (p : Iec.Srv104.Params) (gs : List (String × List (Bool × List Nat)))
    (hh : 1 ≤ p.highQ) (ops : List Iec.Srv104.WOp) (g : Nat) :
    ∃ up low, HpInv ((ops.foldl Iec.Srv104.WOp.apply (Iec.Srv104.create p gs)).grp g).highQ up low ∧
      ((ops.foldl Iec.Srv104.WOp.apply (Iec.Srv104.create p gs)).grp g).highQ.getNext.2 = (HpInv.abs up low).head? := by
  obtain ⟨up, low, h⟩ := (Iec.Srv104.run_hgok p gs hh ops).2 g
  refine ⟨up, low, h, ?_⟩
  cases up with
  | nil => rw [getNext_empty _ [] low h rfl, h.lowup rfl]; rfl
  | cons u0 rest =>
    obtain ⟨q', he, _, _⟩ := getNext_refines _ u0 rest low h
    rw [he]; simp [HpInv.abs]

end Iec.Props.C13
