import Iec.Lemmas.Asdu
import Iec.Props.C01
/-
C12 — Building ASDUs never exceeds configured size or storage, and fails cleanly.

Statement (properties.jsonl): adding information objects of any type never produces an
ASDU longer than the configured maximum; no construction operation (adding, raw payload,
cloning, header setters) writes outside the 256-octet storage; the element count never
exceeds 127; a refused addition leaves the ASDU unchanged; an accepted addition appends
exactly that object's encoding.

Theorems are over arbitrary operation lists (`run_inv`, by induction) from any state
satisfying the storage invariant, for every type of the table, arbitrary stored values
(well-formed or not), every legal size configuration and every maximum ≤ 256.
The per-type space guard of the model (`guardSize` = octets emitted + `guardExtra`) is what
the correspondence run compares with the C encoders by adding objects until refusal for
every type, configuration and maximum.
-/
namespace Iec.Props.C12
open Iec.Layout Iec.Asdu

/-- C12: a refused addition leaves the ASDU unchanged -/
theorem refused_unchanged (a : Asdu) (e : TypeEntry) (ioa : Nat) (vals : List Nat) (a' : Asdu)
    (h : a.add e ioa vals = (a', false)) : a' = a := add_refused a e ioa vals a' h

/-- C12: an accepted addition appends exactly the object's encoding, stays within the
configured maximum, and counts one more element (never more than 127) -/
theorem accepted_appends (a : Asdu) (hi : Inv a) (hm : a.p.maxSize ≤ 256) (e : TypeEntry) (ioa : Nat)
    (vals : List Nat) (a' : Asdu) (h : a.add e ioa vals = (a', true)) :
    ∃ fb, encodeFields e.fields vals = some fb ∧
      a'.payload = a.payload ++ ((if a.nextSeq then [] else leBytes a.p.sizeOfIOA ioa) ++ fb) ∧
      a'.bytes.length ≤ a.p.maxSize ∧ a'.count = a.count + 1 ∧ a'.count ≤ 127 ∧ a'.p = a.p ∧ Inv a' :=
  add_accepted a hi hm e ioa vals a' h

/-- construction operations of the public API -/
inductive Op where
  | add (tid ioa : Nat) (vals : List Nat)
  | pay (buf : List Nat)
  | setType (v : Nat) | setSeq (b : Bool) | setCount (n : Nat) | setCot (v : Nat)
  | setTest (b : Bool) | setNeg (b : Bool) | setCa (v : Nat) | clear | clone

def step (a : Asdu) : Op → Asdu
  | .add tid ioa vals => match lookup tid with
      | some e => (a.add e ioa vals).1
      | none => a
  | .pay buf => (a.addPayload buf).1
  | .setType v => a.setTypeId v
  | .setSeq b => a.setSequence b
  | .setCount n => a.setCount n
  | .setCot v => a.setCot v
  | .setTest b => a.setTest b
  | .setNeg b => a.setNegative b
  | .setCa v => a.setCa v
  | .clear => a.removeAll
  | .clone => a.clone

def Op.ok : Op → Prop
  | .pay buf => ∀ b ∈ buf, b < 256
  | _ => True

theorem flag_oct {b : Nat} (v : Bool) (m k : Nat) (hb : b < 256) (hm : m < 256) (hk : k < 256) :
    (if v then b ||| m else b &&& k) < 256 := by
  cases v
  · exact Iec.Bits.and_lt_256 b hk
  · exact Iec.Bits.or_lt_256 hb hm

theorem inv_set (a : Asdu) (hi : Inv a) (i v : Nat) (hv : v < 256) :
    Inv { a with bytes := setByte a.bytes i v } :=
  ⟨hi.legal, by simp [setByte]; exact hi.len, by simp [setByte]; exact hi.fits,
    mem_set_lt _ _ _ hv hi.oct⟩

theorem inv_setCount (a : Asdu) (hi : Inv a) (n : Nat) : Inv (a.setCount n) :=
  inv_set a hi 1 _ (Iec.Bits.or_lt_256 (Iec.Bits.and_lt_256 _ (by decide)) (Iec.Bits.and_lt_256 _ (by decide)))

theorem inv_create (p : Params) (hp : p.Legal) (sq : Bool) (cot oa ca : Nat) (t n : Bool) :
    Inv (create p sq cot oa ca t n) := by
  have hl := create_length p hp sq cot oa ca t n
  refine ⟨hp, Nat.le_of_eq hl.symm, ?_, create_oct p sq cot oa ca t n⟩
  rw [hl]; obtain ⟨h1, h2, _⟩ := hp; unfold Params.hdrLen; omega

theorem inv_addPayload (a : Asdu) (hi : Inv a) (buf : List Nat) (hb : ∀ b ∈ buf, b < 256) :
    Inv (a.addPayload buf).1 ∧ (a.addPayload buf).1.p = a.p := by
  unfold Asdu.addPayload
  split
  · rename_i h
    refine ⟨⟨hi.legal, by simp; have := hi.len; omega, ?_, ?_⟩, rfl⟩
    · simp only [List.length_append]
      unfold Asdu.payloadSize at h; have := hi.len; omega
    · intro b hbm
      rcases List.mem_append.mp hbm with hbm | hbm
      · exact hi.oct b hbm
      · exact hb b hbm
  · exact ⟨hi, rfl⟩

theorem inv_step (a : Asdu) (hi : Inv a) (hm : a.p.maxSize ≤ 256) (op : Op) (hok : op.ok) :
    Inv (step a op) ∧ (step a op).p = a.p := by
  have hb : ∀ i, a.byte i < 256 := fun i => byte_lt a i hi.oct
  have hmod : ∀ x, x % 256 < 256 := fun x => Nat.mod_lt x (by decide)
  cases op with
  | add tid ioa vals =>
    simp only [step]
    cases hl : lookup tid with
    | none => exact ⟨hi, rfl⟩
    | some e =>
      simp only
      rcases hr : a.add e ioa vals with ⟨a', _ | _⟩
      · rw [add_refused a e ioa vals a' hr]; exact ⟨hi, rfl⟩
      · obtain ⟨_, _, _, _, _, _, hp, hinv⟩ := add_accepted a hi hm e ioa vals a' hr
        exact ⟨hinv, hp⟩
  | pay buf => exact inv_addPayload a hi buf hok
  | setType v => exact ⟨inv_set a hi 0 _ (hmod v), rfl⟩
  | setSeq b => exact ⟨inv_set a hi 1 _ (flag_oct b 0x80 0x7f (hb 1) (by decide) (by decide)), rfl⟩
  | setCount n => exact ⟨inv_setCount a hi n, rfl⟩
  | setCot v => exact ⟨inv_set a hi 2 _ (hmod _), rfl⟩
  | setTest b => exact ⟨inv_set a hi 2 _ (flag_oct b 0x80 0x7f (hb 2) (by decide) (by decide)), rfl⟩
  | setNeg b => exact ⟨inv_set a hi 2 _ (flag_oct b 0x40 0xbf (hb 2) (by decide) (by decide)), rfl⟩
  | setCa v =>
    simp only [step, Asdu.setCa]
    split
    · exact ⟨inv_set a hi _ _ (hmod _), rfl⟩
    · exact ⟨inv_set _ (inv_set a hi _ _ (hmod _)) _ _ (hmod _), rfl⟩
  | clear =>
    have h1 := inv_set a hi 1 _ (Iec.Bits.and_lt_256 (a.byte 1) (show 0x80 < 256 by decide))
    have := hi.len; have := hi.fits
    refine ⟨⟨hi.legal, ?_, ?_, fun b hbm => h1.oct b (List.mem_of_mem_take hbm)⟩, rfl⟩ <;>
      simp only [step, Asdu.removeAll, List.length_take, setByte, List.length_set] <;> omega
  | clone =>
    -- `create`, then type and count written into it, then the payload appended
    have h0 := inv_create a.p hi.legal a.isSequence a.cot (if a.p.sizeOfCOT < 2 then 255 else a.byte 3) a.ca
      a.isTest a.isNegative
    exact inv_addPayload _ (inv_setCount _ (inv_set _ h0 0 _ (hmod a.typeId)) a.count) a.payload
      fun b hbm => hi.oct b (List.mem_of_mem_drop hbm)

/-- C12, invariant for every operation list: from any state satisfying the storage
invariant, whatever construction operations follow, the ASDU stays within its 256-octet
storage, keeps a complete header, and all octets stay octets. -/
theorem run_inv (a : Asdu) (hi : Inv a) (hm : a.p.maxSize ≤ 256) (ops : List Op) (hok : ∀ op ∈ ops, op.ok) :
    Inv (ops.foldl step a) ∧ (ops.foldl step a).p = a.p := by
  induction ops generalizing a with
  | nil => exact ⟨hi, rfl⟩
  | cons op ops ih =>
    obtain ⟨h1, hp⟩ := inv_step a hi hm op (hok op (by simp))
    have := ih (step a op) h1 (by rw [hp]; exact hm) (fun o ho => hok o (by simp [ho]))
    exact ⟨this.1, by rw [List.foldl_cons, this.2, hp]⟩

/-- non-vacuity: under maximum 30 a FileSegment with 16 data octets is accepted (29 octets in all), one
with 18 is refused -/
example : let p : Params := ⟨2, 2, 3, 30⟩
    let a := create p false 13 0 1 false false
    let e := (lookup 125).get!
    (a.add e 5 [1, 2, 16, 0]).2 = true ∧ (a.add e 5 [1, 2, 18, 0]).2 = false ∧
    ((a.add e 5 [1, 2, 16, 0]).1.bytes.length = 29) := by decide

end Iec.Props.C12
