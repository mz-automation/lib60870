import Iec.Lemmas.KWindow
import Iec.Lemmas.Srv104Win
import Iec.Lemmas.Cli104Win
import Iec.Model.Srv104
import Iec.Model.Cli104
/-
C04 — CS104 k-window and acknowledgement validation.

Statement (properties.jsonl): a station never has more than k I-format APDUs sent and not
yet acknowledged; a received N(R) is accepted exactly when it lies, modulo 32768, between
the N(S) of the oldest unacknowledged APDU and the next N(S) to be sent inclusive - all
APDUs below it are then released - and any other value closes the connection; while the
window is full the client API reports failure without transmitting, the server defers the
ASDU without losing it.

Model: `Iec.KWindow` (shared by the server model `Iec.Srv104` and the client model): the
k-buffer as a FIFO of acknowledgement numbers.  `WinInv vs win base len` says the buffer
holds the `len` consecutive numbers base+1 … base+len (mod 32768) and V(S) = base+len;
`base` is the N(S) of the oldest unacknowledged APDU.  The theorems hold for every
alignment of the window to the 32767→0 wrap, every occupancy below 32767 (no bound such as
k ≤ 32), every N(R) in 0..32767.

`WinInv` is not an assumption about reachable states - it is an invariant of the whole server model
(`server_never_more_than_k`, `server_ack_validation`; Lemmas/Srv104Win.lean) and of the whole client model
(`client_window_every_history`; Lemmas/Cli104Win.lean) over every operation list, for 0 < k < 32767.
-/
namespace Iec.Props.C04
open Iec.KWindow

/-- Acceptance is exactly the modular window test, and acceptance releases exactly the
acknowledged prefix and re-establishes the invariant; rejection changes nothing. -/
theorem checkSeq_spec (vs : Nat) (win : List KEntry) (base len : Nat) (h : WinInv vs win base len)
    (nr : Nat) (hnr : nr < 32768) :
    ((checkSeq vs win nr).1 = true ↔ dist base nr ≤ len) ∧
    ((checkSeq vs win nr).1 = true →
        (checkSeq vs win nr).2.1 = win.drop (dist base nr) ∧
        (checkSeq vs win nr).2.2 = win.take (dist base nr) ∧
        WinInv vs (checkSeq vs win nr).2.1 ((base + dist base nr) % 32768) (len - dist base nr)) ∧
    ((checkSeq vs win nr).1 = false → (checkSeq vs win nr).2.1 = win ∧ (checkSeq vs win nr).2.2 = []) := by
  have hv := valid_iff vs win base len h nr hnr
  by_cases hval : valid vs win nr = true
  · have hd := hv.mp hval
    have hr := release_spec vs win base len h nr hnr hd
    have e : checkSeq vs win nr = (true, win.drop (dist base nr), win.take (dist base nr)) := by
      unfold checkSeq; rw [if_pos hval, hr]
    rw [e]
    exact ⟨⟨fun _ => hd, fun _ => rfl⟩, fun _ => ⟨rfl, rfl, winInv_drop vs win base len _ h hd⟩,
      fun hf => Bool.noConfusion hf⟩
  · have e : checkSeq vs win nr = (false, win, []) := by
      unfold checkSeq; rw [if_neg hval]
    rw [e]
    exact ⟨⟨fun hf => Bool.noConfusion hf, fun hd => absurd (hv.mpr hd) hval⟩,
      fun hf => Bool.noConfusion hf, fun _ => ⟨rfl, rfl⟩⟩

/-- the distance test is "between the oldest unacknowledged N(S) and the next N(S), inclusive":
`nr` is accepted iff it equals (base + d) mod 32768 for some 0 ≤ d ≤ len -/
theorem dist_le_iff (base len nr : Nat) (hb : base < 32768) (hl : len < 32767) (hnr : nr < 32768) :
    dist base nr ≤ len ↔ ∃ d, d ≤ len ∧ nr = (base + d) % 32768 := by
  unfold dist
  constructor
  · intro h; exact ⟨(nr + 32768 - base) % 32768, h, by omega⟩
  · rintro ⟨d, hd, rfl⟩; omega

/-- the step behind "never more than k outstanding": a push made when `isSentBufferFull` says no stays within k -/
theorem push_bound (k : Nat) (hk : 0 < k) (win : List KEntry) (hle : win.length ≤ k)
    (hnf : isFull k win = false) (e : KEntry) : (win ++ [e]).length ≤ k := by
  rw [List.length_append]; exact length_succ_le_of_not_full hk hle hnf

/-- sending keeps the invariant (the new entry carries the incremented V(S)) -/
theorem send_inv (vs : Nat) (win : List KEntry) (base len : Nat) (h : WinInv vs win base len)
    (hl : len + 1 < 32767) (t : Nat) (q : Option (Nat × Nat)) :
    WinInv ((vs + 1) % 32768) (win ++ [{ seq := (vs + 1) % 32768, sentTime := t, qref := q }]) base (len + 1) :=
  winInv_push vs win base len h hl _ rfl

/-- Server, window full: a response is not transmitted; it is handed to the response queue
(whose `enqueue` either appends it or reports false), nothing else changes -/
theorem server_full_defers (s : Iec.Srv104.Slave) (i : Nat) (asdu : List Nat)
    (hst : (s.conn i).state = 1) (hfull : isFull (s.conn i).maxSent (s.conn i).win = true) :
    (Iec.Srv104.sendAsduInternal s i asdu).1.log = s.log ∧
    (Iec.Srv104.sendAsduInternal s i asdu).1.conns = s.conns ∧
    (Iec.Srv104.sendAsduInternal s i asdu).2 = ((s.grp (s.gidx i)).highQ.enqueue asdu).2 := by
  unfold Iec.Srv104.sendAsduInternal
  simp [hst, hfull, Iec.Srv104.Slave.setGrp]

/-- non-vacuity: a window of 5 straddling the wrap (base 32765: entries 32766, 32767, 0, 1, 2) -/
example : WinInv 2 ([32766, 32767, 0, 1, 2].map fun n => ⟨n, 0, none⟩) 32765 5 := by
  refine ⟨by decide, by decide, by decide, by decide⟩

example : (checkSeq 2 ([32766, 32767, 0, 1, 2].map fun n => ⟨n, 0, none⟩) 0).1 = true ∧
    ((checkSeq 2 ([32766, 32767, 0, 1, 2].map fun n => ⟨n, 0, none⟩) 0).2.1.map (·.seq)) = [1, 2] ∧
    (checkSeq 2 ([32766, 32767, 0, 1, 2].map fun n => ⟨n, 0, none⟩) 3).1 = false ∧
    (checkSeq 2 ([32766, 32767, 0, 1, 2].map fun n => ⟨n, 0, none⟩) 32765).1 = true := by decide

end Iec.Props.C04

namespace Iec.Props.C04
open Iec.KWindow

/-- Client, window full: `CS104_Connection_sendASDU` reports failure and transmits nothing -/
theorem client_full_refuses (c : Iec.Cli104.Cli) (asdu : List Nat)
    (hfull : isFull (c.maxSent.getD c.p.k) c.win = true) : Iec.Cli104.sendAsdu c asdu = (c, false) := by
  rw [Iec.Cli104.sendAsdu_eq, if_neg fun h => Bool.noConfusion (hfull.symm.trans h.2)]

end Iec.Props.C04

namespace Iec.Props.C04
open Iec.KWindow Iec.Srv104

/-- Never more than k outstanding, in every reachable state: from a freshly created server (0 < k < 32767), after any
sequence of ticks (accept, receive, transmit events and replies, acknowledge, time-outs, reaping), enqueues, restarts and
environment events (octets arriving in any segmentation, peers closing, writes failing, the clock), every connection in
use holds at most k sent-but-unacknowledged I-format APDUs -/
theorem server_never_more_than_k (p : Params) (gs : List (String × List (Bool × List Nat))) (hk0 : 0 < p.k) (hk : p.k < 32767)
    (ops : List WOp) (j : Nat) (hu : ((ops.foldl WOp.apply (create p gs)).conn j).isUsed = true) :
    ((ops.foldl WOp.apply (create p gs)).conn j).win.length ≤ p.k := by
  obtain ⟨h, hp⟩ := run_winv p gs hk0 hk ops
  have := ((h j).2 ((h j).1 hu)).1
  rwa [hp] at this

/-- the N(S) of the oldest unacknowledged APDU, computed from V(S) and the number of outstanding APDUs -/
def oldestNS (c : Conn) : Nat := (c.vs + 32768 - c.win.length) % 32768

/-- Acknowledgement validation in every reachable state: on every running connection in use of every reachable server
state the hypothesis of `checkSeq_spec` holds, hence a received N(R) is accepted exactly when it lies, modulo 32768, between
the N(S) of the oldest unacknowledged APDU and V(S) inclusive; acceptance releases exactly the APDUs below it, rejection
changes nothing -/
theorem server_ack_validation (p : Params) (gs : List (String × List (Bool × List Nat))) (hk0 : 0 < p.k) (hk : p.k < 32767)
    (ops : List WOp) (j : Nat) (hu : ((ops.foldl WOp.apply (create p gs)).conn j).isUsed = true)
    (hr : ((ops.foldl WOp.apply (create p gs)).conn j).isRunning = true) (nr : Nat) (hnr : nr < 32768) :
    let c := (ops.foldl WOp.apply (create p gs)).conn j
    WinInv c.vs c.win (oldestNS c) c.win.length ∧
    ((checkSeq c.vs c.win nr).1 = true ↔ dist (oldestNS c) nr ≤ c.win.length) ∧
    ((checkSeq c.vs c.win nr).1 = true → (checkSeq c.vs c.win nr).2.1 = c.win.drop (dist (oldestNS c) nr)) ∧
    ((checkSeq c.vs c.win nr).1 = false → (checkSeq c.vs c.win nr).2.1 = c.win) := by
  intro c
  obtain ⟨h, hp⟩ := run_winv p gs hk0 hk ops
  obtain ⟨base, hb⟩ := ((h j).2 ((h j).1 hu)).2 hr
  have hbase : base = oldestNS c := hb.base_eq
  have hb' : WinInv c.vs c.win (oldestNS c) c.win.length := hbase ▸ hb
  have sp := checkSeq_spec c.vs c.win (oldestNS c) c.win.length hb' nr hnr
  exact ⟨hb', sp.1, fun ha => (sp.2.1 ha).1, fun hf => (sp.2.2 hf).1⟩

/-- non-vacuity of the hypotheses: a connection record that is in use, running, with three APDUs outstanding across the
32767 -> 0 wrap satisfies `Good` for k = 3 (the invariant the history theorem maintains) -/
def wrapConn : Conn := { isUsed := true, isRunning := true, maxSent := 3, vs := 1, win := [⟨32767, 0, none⟩, ⟨0, 0, none⟩, ⟨1, 0, none⟩] }
example : Good 3 wrapConn ∧ oldestNS wrapConn = 32766 ∧ isFull 3 wrapConn.win = true :=
  ⟨⟨by decide, fun _ => ⟨32766, by decide, by decide, by decide, by decide⟩⟩, by decide, by decide⟩

def demoParams : Params := { k := 2, w := 1, t0 := 10, t1 := 15, t2 := 10, t3 := 20, mode := 0, maxOpen := 0, lowQ := 4, highQ := 4, asduHdr := 6, replies := 0, nSlots := 2 }
def demoOps : List WOp := [.env (lenvPending {}), .tick, .env (lenvFeed 0 [0x68, 4, 7, 0, 0, 0]), .tick, .enqueue [1,1,3,0,1,0,5,0,0,1], .tick, .enqueue [1,1,3,0,1,0,6,0,0,1], .tick, .enqueue [1,1,3,0,1,0,7,0,0,1], .tick]
/-- non-vacuity on a concrete history: a client connects and sends STARTDT act, three events are enqueued with k = 2 - the
connection is in use and running, two APDUs are outstanding, the window is full and the third event waits -/
example : let c := (demoOps.foldl WOp.apply (create demoParams [])).conn 0
    c.isUsed = true ∧ c.isRunning = true ∧ c.win.map (·.seq) = [1, 2] ∧ c.vs = 2 ∧ isFull c.maxSent c.win = true ∧ oldestNS c = 0 := by
  decide

end Iec.Props.C04

namespace Iec.Props.C04
open Iec.KWindow Iec.Cli104

/-- Client, never more than k outstanding, and acknowledgement validation in every reachable state: for a connection
object created with 0 < k < 32767, after any sequence of connect / thread steps / peer and clock events / sendASDU /
STARTDT / STOPDT / close, at most k I-format APDUs are outstanding, and a received N(R) is accepted exactly when it lies,
modulo 32768, between the N(S) of the oldest unacknowledged APDU and V(S) inclusive (then exactly the APDUs below it are
released), otherwise nothing is released -/
theorem client_window_every_history (p : Iec.Cli104.Params) (hk0 : 0 < p.k) (hk : p.k < 32767) (ops : List KOp)
    (nr : Nat) (hnr : nr < 32768) :
    let c := ops.foldl KOp.apply { p := p }
    let oldest := (c.vs + 32768 - c.win.length) % 32768
    c.win.length ≤ p.k ∧
    WinInv c.vs c.win oldest c.win.length ∧
    ((checkSeq c.vs c.win nr).1 = true ↔ dist oldest nr ≤ c.win.length) ∧
    ((checkSeq c.vs c.win nr).1 = true → (checkSeq c.vs c.win nr).2.1 = c.win.drop (dist oldest nr)) ∧
    ((checkSeq c.vs c.win nr).1 = false → (checkSeq c.vs c.win nr).2.1 = c.win) := by
  intro c oldest
  obtain ⟨_, h1, base, hb⟩ := run_cgood p hk0 hk ops
  have hbase : base = oldest := hb.base_eq
  have hb' : WinInv c.vs c.win oldest c.win.length := hbase ▸ hb
  have sp := checkSeq_spec c.vs c.win oldest c.win.length hb' nr hnr
  exact ⟨h1, hb', sp.1, fun ha => (sp.2.1 ha).1, fun hf => (sp.2.2 hf).1⟩

/-- non-vacuity on a concrete history: connect, three sends with k = 2 - two APDUs outstanding, the third refused -/
def demoCli : Iec.Cli104.Params := { k := 2, w := 1, t0 := 10, t1 := 15, t2 := 10, t3 := 20, asduHdr := 6 }
def demoCliOps : List KOp := [.connect, .step, .step, .send [100, 1, 6, 0, 1, 0, 0, 0, 0, 20], .send [100, 1, 6, 0, 1, 0, 0, 0, 0, 21], .send [100, 1, 6, 0, 1, 0, 0, 0, 0, 22]]
example : let c := demoCliOps.foldl KOp.apply { p := demoCli }
    c.running = true ∧ c.win.map (·.seq) = [1, 2] ∧ c.vs = 2 ∧ (sendAsdu c [1]).2 = false := by decide

end Iec.Props.C04
