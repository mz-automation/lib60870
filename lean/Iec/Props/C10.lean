/-
C10 — no peer input can crash, corrupt or wedge a protocol stack.  PARTIAL (DESIGN.md section 9).

What Lean decides, on the models that the other checks tie to the C code: every step function is total
(a Lean function: no partiality, no exception), and at the places where the C code indexes fixed
storage or dereferences a decoder result the model is explicit about it:

* `asdu_element_in_bounds`      an information object is produced only when all its octets lie inside the
                                received ASDU (so `CS101_ASDU_getElementEx` reads nothing outside it), for every
                                octet string, index, type and size configuration; unknown types give nothing
                                (the variable-length F_SG_NA_1, type 125, is C02 `getElement_segment`)
* `receive_buffer_bounded`      a proper prefix of a frame or one complete frame - what every read leaves in the CS104
                                reassembly buffer, Lemmas/Reasm `recvStep_spec` - is at most 257 < 260 octets
* `file_service_undecodable`    a file-service ASDU whose object cannot be decoded reaches no application callback
                                and changes nothing but the supervision time-out (the NULL tests of file_server.c)
* `file_service_total`          every request leaves the plugin in one of its ten states with a reply list
* `truncated_command_no_callback` (C09) a truncated command reaches no typed callback in either slave
* `link_reject_is_silent` (C14) a frame that fails the FT 1.2 checks causes no transmission and no delivery
* `peer_input_cannot_touch_other_connections`  whatever the peer of one connection sends, every other connection's record is
                                untouched (or only deactivated by STARTDT act), for every server state
* `no_history_overfills_the_window`  in every reachable server state the k-buffer holds at most k entries

NOT decided here: memory safety of the C code itself (pointer arithmetic inside the ring buffers, the HAL,
linked list, TLS), thread interleavings.  (Termination of the ring traversals: the geometry invariants of both rings hold
in every reachable server state - C06 `server_event_rings_wellformed`, C13 `server_rings_wellformed` - and under them the
walks visit exactly `entryCounter` entries, C06 `reachable_ring_is_a_list`.)  Those are explored by harness/fuzz10.c and the per-stack harnesses under ASan/UBSan with a
HAL-call watchdog — a search, not a proof.
-/
import Iec.Props.C02
import Iec.Props.C09
import Iec.Props.C14
import Iec.Lemmas.Reasm
import Iec.Lemmas.FileSrvSafety
import Iec.Gen.Consts104
import Iec.Lemmas.Srv104Isolated
import Iec.Props.C04
namespace Iec.Props.C10
open Iec.Asdu Iec.Layout

/-- C10, ASDU parser.  An object is handed out only if every octet of it is inside the payload that was
received; an unknown type id yields nothing.  For F_SG_NA_1 (type 125, variable length) the statement only names the
type; its bound is C02 `getElement_segment`. -/
theorem asdu_element_in_bounds (a : Asdu) (i : Nat) (h : (a.getElement i).isSome = true) :
    ∃ e, lookup a.typeId = some e ∧
      ((NoSeg e.fields ∧ Iec.Props.C02.elemEnd a e i ≤ a.payload.length) ∨ a.typeId = 125) := by
  cases hl : lookup a.typeId with
  | none => rw [Iec.Props.C02.unknown_type_none a hl i] at h; simp at h
  | some e =>
    refine ⟨e, rfl, ?_⟩
    have hmem : e ∈ typeTable := by
      unfold lookup at hl
      exact List.mem_of_find?_eq_some hl
    have hid : a.typeId = e.typeId := by
      unfold lookup at hl
      have := List.find?_some hl
      exact (by simpa using this : e.typeId = a.typeId).symm
    rcases Iec.Props.C02.coverage e hmem with hn | h125
    · exact Or.inl ⟨hn, (Iec.Props.C02.getElement_exact a e hl hn i).mp h⟩
    · exact Or.inr (by rw [hid, h125])

open Iec.Srv104 in
/-- C10, CS104 receive buffer (260 octets).  Between two reads the buffer holds a proper prefix of one frame
(`PartialOk`, kept by every read: Lemmas/Reasm `recvStep_spec`), a delivered frame (`Complete`) is `2 + L` octets:
never more than 257. -/
theorem receive_buffer_bounded (buf : List Nat) (hb : ∀ x ∈ buf, x < 256) :
    (PartialOk buf → buf.length ≤ 256) ∧ (Complete buf → buf.length ≤ 257) := by
  constructor
  · intro h
    rcases h with h | h | ⟨len, xs, h, hl⟩
    · simp [h]
    · simp [h]
    · have : len < 256 := hb len (by simp [h])
      rw [h]; simp; omega
  · intro ⟨len, body, h, hl⟩
    have : len < 256 := hb len (by simp [h])
    rw [h]; simp; omega

theorem ite_ind {α} {P : α → Prop} {c : Prop} [Decidable c] {a b : α} (ha : P a) (hb : P b) : P (if c then a else b) := by
  split <;> assumption

open Iec.FileSrv in
/-- C10, file service.  A file-service ASDU whose information object cannot be decoded (truncated, wrong
length) invokes no application callback, sends nothing but the incoming ASDU mirrored back, and leaves the transfer
state as it was (apart from the supervision time-out that every file-service ASDU evaluates). -/
theorem file_service_undecodable (e : Env) (s : Srv) (conn now : Nat) (q : Req) (hq : q.obj = none)
    (hr : 120 ≤ q.tid ∧ q.tid ≤ 127) :
    ∃ outs, handleAsdu e s conn now q = some (s.expire now, outs) ∧ ∀ o ∈ outs, ∃ c n, o = Out.mirror conn c n := by
  -- every handler looks at the object before it does anything but answer with a mirrored ASDU
  let P (t : Srv) (r : Srv × List Out) : Prop := ∃ outs, some r = some (t, outs) ∧ ∀ o ∈ outs, ∃ c n, o = Out.mirror conn c n
  have h0 : ∀ t, P t (t, []) := fun t => ⟨[], rfl, fun _ h => absurd h List.not_mem_nil⟩
  have h1 : ∀ t c n, P t (t, [.mirror conn c n]) := fun t c n => ⟨_, rfl, fun o h => ⟨c, n, List.mem_singleton.mp h⟩⟩
  unfold handleAsdu
  rw [if_neg (by omega)]
  refine ite_ind (P := P _) ?_ (ite_ind ?_ (ite_ind ?_ (ite_ind ?_ (ite_ind ?_ (ite_ind ?_ (h0 _))))))
  · unfold onFileReady; rw [hq]; exact ite_ind (h1 _ _ _) (h0 _)
  · unfold onSectionReady; rw [hq]; exact ite_ind (h0 _) (h0 _)
  · unfold onSegment; rw [hq]; exact ite_ind (h0 _) (h0 _)
  · unfold onLastSeg; rw [hq]; exact h0 _
  · unfold onAck; rw [hq]; exact ite_ind (h1 _ _ _) (h0 _)
  · unfold onCallSel; rw [hq]; exact ite_ind (h0 _) (h0 _)

open Iec.FileSrv in
/-- C10, file service is total: every request is answered by a state and a reply list (the model is a
total function; this instance records it for the step function as a whole). -/
theorem file_service_total (e : Env) (s : Srv) (op : Op) : ∃ s' outs, step e s op = (s', outs) := ⟨_, _, rfl⟩

/-- C10 / C09: a truncated command never reaches its typed callback -/
theorem truncated_command_no_callback (a : Asdu) (is104 : Bool) (allowed : List Nat) (h : Option Bool) (name : String)
    (arg : Nat × List Nat → Nat) (chk : Bool) (hg : a.getElement 0 = none) :
    ∀ o handled, Iec.Dispatch.typed a is104 allowed h name arg chk = some (o, handled) → ∀ x ∈ o, ∀ v, x ≠ .cb name v :=
  Iec.Props.C09.truncated_no_callback a is104 allowed h name arg chk hg

open Iec.Link101 in
/-- C10 / C14: a frame failing the FT 1.2 checks of the unbalanced slave is dropped: the only observable
effects are link-state notifications; queues, buffer and frame count bit are untouched -/
theorem link_reject_is_silent (s : SecU) (now n : Nat)
    (h : ∀ fc bc fcb fcv us ul, secHeader s.ll n ≠ .ok fc bc fcb fcv us ul) :
    Iec.Props.C14.Quiet (s.parse now n).2 ∧ (s.parse now n).1.ll = s.ll ∧ (s.parse now n).1.c1 = s.c1 ∧
    (s.parse now n).1.c2 = s.c2 ∧ (s.parse now n).1.expectedFcb = s.expectedFcb :=
  Iec.Props.C14.secU_reject_is_silent s now n h

/-- the bound of `receive_buffer_bounded` (257 octets) is below the size of the receive buffer in the compiled source,
and a complete APDU (APCI + largest ASDU) fits the send buffer (`Iec.Gen.*` is generated from the compiled source) -/
theorem buffers_fit_source :
    257 < Iec.Gen.recvBufferSize ∧ Iec.Gen.apciLength + Iec.Gen.maxAsduLength ≤ Iec.Gen.sendBufferSize := by
  decide

/-- Isolation: whatever the peer of connection `i` sends (any octets, any segmentation, valid or not), the reception step
leaves the record of every other connection `j` exactly as it was - sequence numbers, k-buffer, receive buffer, timers,
socket - or only deactivates it (STARTDT act on `i` in a shared redundancy group); the periodic tasks of `i` likewise. For
EVERY server state. -/
theorem peer_input_cannot_touch_other_connections (s : Iec.Srv104.Slave) (i j : Nat) (hj : j ≠ i) :
    ((Iec.Srv104.handleTcpConnection s i).conn j = s.conn j ∨
      (Iec.Srv104.handleTcpConnection s i).conn j = { s.conn j with state := 2 }) ∧
    ((Iec.Srv104.periodic s i).conn j = s.conn j ∨ (Iec.Srv104.periodic s i).conn j = { s.conn j with state := 2 }) ∧
    (Iec.Srv104.handleTcpConnection s i).conns.length = s.conns.length :=
  ⟨(Iec.Srv104.ok1_handleTcpConnection s i).conn j hj, (Iec.Srv104.ok1_periodic s i).conn j hj,
   (Iec.Srv104.ok1_handleTcpConnection s i).len⟩

/-- No history of peer input wedges the window bookkeeping: in every reachable server state (any octets from any peers,
in any segmentation, closes, write failures, restarts) the k-buffer of every connection in use holds at most k entries - the
ring indices of the C code never run past each other (restated from C04 `server_never_more_than_k` for this property) -/
theorem no_history_overfills_the_window (p : Iec.Srv104.Params) (gs : List (String × List (Bool × List Nat)))
    (hk0 : 0 < p.k) (hk : p.k < 32767) (ops : List Iec.Srv104.WOp) (j : Nat)
    (hu : ((ops.foldl Iec.Srv104.WOp.apply (Iec.Srv104.create p gs)).conn j).isUsed = true) :
    ((ops.foldl Iec.Srv104.WOp.apply (Iec.Srv104.create p gs)).conn j).win.length ≤ p.k :=
  Iec.Props.C04.server_never_more_than_k p gs hk0 hk ops j hu

end Iec.Props.C10
