/-
C15 — CS101 frame count bit: alternation, retransmission, duplicate suppression.
Model: Iec.Link101 (tied to link_layer.c by checks/link_common.py).

Step theorems (one frame, any state) for the unbalanced slave, the balanced station and the unbalanced master.
Unbalanced slave, every stream of requests with every pattern of repetitions (`secU_stream_exactly_once`,
`secU_repetitions_invisible`, `secU_repeated_response_identical`): the station refines the specification
`Iec.Link101.View.stream` (`Lemmas/Link101Hist.lean`, `runStream_refines`); balanced secondary: `bal_stream_exactly_once`
(`Lemmas/Link101BalHist.lean`).  Unbalanced master, every history of one slave connection: `master_fcb_discipline`
(`Lemmas/Link101Fcb.lean`); balanced station, every history: `balanced_fcb_discipline` (`Lemmas/Link101FcbBal.lean`).
-/
import Iec.Model.Link101
import Iec.Lemmas.Link101Hist
import Iec.Lemmas.Link101BalHist
import Iec.Lemmas.Link101Fcb
import Iec.Lemmas.Link101FcbBal
namespace Iec.Props.C15
open Iec.Link101

theorem checkFCB_spec (e fcb : Bool) :
    checkFCB e fcb = if fcb = e then (true, !e) else (false, e) := checkFCB_eq e fcb

/-- the observation list hands something to the application (`HandleReceivedData`) -/
def delivers (o : List Obs) : Prop := ∃ bc d, Obs.rx bc d ∈ o
/-- the observation list writes a frame -/
def answers (o : List Obs) : Prop := ∃ f, Obs.tx f ∈ o

theorem ack_no_delivery (s : SecU) (a b : Bool) : ¬ delivers (s.ack a b).2 := by
  unfold SecU.ack
  split <;> (rintro ⟨bc, d, h⟩; simp [LL.sendSingle, LL.sendFixed] at h)

theorem ack_answers (s : SecU) (a b : Bool) : answers (s.ack a b).2 := by
  unfold SecU.ack answers
  split
  · exact ⟨_, by simp [LL.sendSingle]; rfl⟩
  · exact ⟨_, by simp [LL.sendFixed]; rfl⟩

theorem ack_keeps (s : SecU) (a b : Bool) :
    (s.ack a b).1.expectedFcb = s.expectedFcb ∧ (s.ack a b).1.c1 = s.c1 ∧ (s.ack a b).1.c2 = s.c2 := by
  unfold SecU.ack; split <;> exact ⟨rfl, rfl, rfl⟩

/-- C15, unbalanced slave, duplicate suppression.  A confirmed user-data frame whose
FCB is not the expected one — a retransmission — is not delivered to the application, is
answered (by `SecU.ack`: the acknowledgement again), and leaves the expectation where it was. -/
theorem secU_repeat_not_delivered (s : SecU) (bc fcb : Bool) (us : Nat) (ul : Int)
    (h : fcb ≠ s.expectedFcb) :
    ¬ delivers (s.userData bc fcb true us ul).2 ∧ answers (s.userData bc fcb true us ul).2 ∧
    (s.userData bc fcb true us ul).1.expectedFcb = s.expectedFcb := by
  unfold SecU.userData
  simp only [if_true, checkFCB_spec, if_neg h, Bool.false_and]
  exact ⟨ack_no_delivery _ _ _, ack_answers _ _ _, (ack_keeps _ _ _).1⟩

/-- C15, unbalanced slave, alternation.  A confirmed user-data frame with the expected
FCB is delivered exactly once — the octets from the receive buffer — is answered, and
the expectation toggles; so its retransmission falls under `secU_repeat_not_delivered`. -/
theorem secU_new_frame_delivered_once (s : SecU) (bc : Bool) (us : Nat) (ul : Int) (hl : ul > 0) :
    ∃ o, (s.userData bc s.expectedFcb true us ul).2 = Obs.rx bc (userDataOf s.ll.buf us ul) :: o ∧
      ¬ delivers o ∧ answers o ∧
      (s.userData bc s.expectedFcb true us ul).1.expectedFcb = !s.expectedFcb := by
  unfold SecU.userData
  simp only [if_true, checkFCB_spec, Bool.true_and, decide_eq_true_eq, hl, List.cons_append, List.nil_append]
  exact ⟨_, rfl, ack_no_delivery _ _ _, ack_answers _ _ _, (ack_keeps _ _ _).1⟩

/-- hence: the same frame twice in a row is delivered once -/
theorem secU_twice_once (s : SecU) (bc fcb : Bool) (us : Nat) (ul : Int) (h : fcb = s.expectedFcb) :
    ¬ delivers ((s.userData bc fcb true us ul).1.userData bc fcb true us ul).2 := by
  subst h
  have hne : s.expectedFcb ≠ (s.userData bc s.expectedFcb true us ul).1.expectedFcb := by
    have : (s.userData bc s.expectedFcb true us ul).1.expectedFcb = !s.expectedFcb := by
      unfold SecU.userData
      simp only [if_true, checkFCB_spec]
      exact (ack_keeps _ _ _).1
    rw [this]; exact bool_ne_not _
  exact (secU_repeat_not_delivered _ bc _ us ul hne).1

/-- C15, reset.  An accepted reset (FCB = FCV = 0) is acknowledged and restarts the
expectation at 1, for RESET REMOTE LINK as for RESET FCB. -/
theorem secU_reset_restarts (s : SecU) (fc : Nat) :
    (s.reset fc false false).1.expectedFcb = true ∧ answers (s.reset fc false false).2 := by
  unfold SecU.reset
  simp only [Bool.or_self, Bool.false_eq_true, if_false]
  constructor
  · exact (ack_keeps _ _ _).1
  · obtain ⟨f, hf⟩ := ack_answers { s with expectedFcb := true } false true
    exact ⟨f, List.mem_append.mpr (Or.inl hf)⟩

/-- C15, unbalanced slave, repeated poll.  A class-1/2 request whose FCB shows a
repetition takes nothing from the application queues and sends the stored previous
response again when there is one. -/
theorem secU_repeated_poll (s : SecU) (cls1 fcb : Bool) (h : fcb ≠ s.expectedFcb) :
    (s.poll cls1 fcb true).1.c1 = s.c1 ∧ (s.poll cls1 fcb true).1.c2 = s.c2 ∧
    (s.poll cls1 fcb true).1.expectedFcb = s.expectedFcb ∧
    (s.ll.userData ≠ [] → (s.poll cls1 fcb true).2 =
      (s.ll.sendVar 8 s.ll.address false false (!s.c1.isEmpty) false s.ll.userData).2) := by
  rw [SecU.poll_repeat s cls1 fcb h]
  unfold SecU.answer
  by_cases hu : s.ll.userData.length > 0
  · simp [hu]
  · have he : s.ll.userData = [] := by
      cases hq : s.ll.userData with
      | nil => rfl
      | cons x xs => rw [hq] at hu; simp at hu
    simp only [hu, if_false]
    refine ⟨?_, ?_, ?_, fun hne => absurd he hne⟩ <;> (split <;> rfl)

theorem bal_ack_no_delivery (s : Bal) : ¬ delivers (s.ack).2 := by
  unfold Bal.ack
  split <;> (rintro ⟨bc, d, h⟩; simp [LL.sendSingle, LL.sendFixed] at h)

/-- C15, balanced station, duplicate suppression and repeated acknowledgement.  A frame
with FCV set whose FCB is not the expected one is never delivered; it is answered with the
ACK again exactly when the frame it repeats had been acknowledged; the expectation stays. -/
theorem bal_repeat (s : Bal) (fc : Nat) (fcb : Bool) (us : Nat) (ul : Int) (h : fcb ≠ s.expectedFcb) :
    ¬ delivers (s.secHandle fc fcb true us ul).2 ∧
    (s.secHandle fc fcb true us ul).1.expectedFcb = s.expectedFcb ∧
    (s.lastAck = true → (s.secHandle fc fcb true us ul).2 = (s.ack).2) ∧
    (s.lastAck = false → (s.secHandle fc fcb true us ul).2 = []) := by
  rw [Bal.secHandle_repeat s fc fcb us ul h]
  cases hl : s.lastAck
  · rw [if_neg Bool.false_ne_true]
    exact ⟨(fun ⟨_, _, hh⟩ => nomatch hh), rfl, (fun hh => nomatch hh), (fun _ => rfl)⟩
  · rw [if_pos rfl]
    refine ⟨bal_ack_no_delivery _, ?_, (fun _ => ?_), (fun hh => nomatch hh)⟩
    · unfold Bal.ack; split <;> rfl
    · unfold Bal.ack; split <;> rfl

/-- a reset restarts the balanced secondary at 1 and forgets the stored acknowledgement -/
theorem bal_reset_restarts (s : Bal) (us : Nat) (ul : Int) :
    (s.secHandle 0 false false us ul).1.expectedFcb = true ∧
    (s.secHandle 0 false false us ul).1.lastAck = false := by
  have e : s.secHandle 0 false false us ul = Bal.ack { s with expectedFcb := true, lastAck := false } := by
    delta Bal.secHandle
    rw [if_neg Bool.false_ne_true]
    rfl
  rw [e]
  unfold Bal.ack
  split <;> exact ⟨rfl, rfl⟩

/-- the octet strings written, in order -/
def txBytes (o : List Obs) : List (List Nat) :=
  o.filterMap (fun x => match x with | .tx f => some f.bytes | _ => none)

theorem txBytes_sendVar (l : LL) (fc a : Nat) (prm dir acd dfc : Bool) (d : List Nat) :
    txBytes (l.sendVar fc a prm dir acd dfc d).2 =
      (varFrame l.p.addrLen (ctrl fc prm dir acd dfc) a d).toList :=
  (sendVar_facts l fc a prm dir acd dfc d).2.2.2.1

theorem txBytes_sendFixed (l : LL) (fc a : Nat) (prm dir acd dfc : Bool) :
    txBytes (l.sendFixed fc a prm dir acd dfc).2 = [fixedFrame l.p.addrLen (ctrl fc prm dir acd dfc) a] := rfl

theorem sendVar_p (l : LL) (fc a : Nat) (prm dir acd dfc : Bool) (d : List Nat) :
    (l.sendVar fc a prm dir acd dfc d).1.p = l.p := (sendVar_facts l fc a prm dir acd dfc d).1

/-- C15, unbalanced master: a new confirmed frame carries the current frame count bit,
which then toggles. -/
theorem priU_new_frame (c : SlaveConn) (l : LL) (now : Nat) (h3 : c.pstate = 3) (ht : c.testFn = false)
    (hm : c.hasMsg = true) :
    txBytes (c.run l now).2.2 = (varFrame l.p.addrLen (ctrl 3 true false c.nextFcb true) c.address c.msg).toList ∧
    (c.run l now).1.nextFcb = !c.nextFcb ∧ (c.run l now).1.pstate = 4 ∧ (c.run l now).1.msg = c.msg ∧
    (c.run l now).1.lastSend = now ∧ (c.run l now).1.origSend = now ∧ (c.run l now).1.address = c.address ∧
    (c.run l now).2.1.p = l.p := by
  have hn : ∀ n, n ≠ 3 → ¬ c.pstate = n := fun n hn e => hn (e.symm.trans h3)
  -- along the guards of `run`: state 3, no link test asked for, user data pending
  generalize hx : c.run l now = r
  delta SlaveConn.run at hx
  extract_lets ps p at hx
  rw [if_neg (hn 7 (by decide)), if_neg (hn 0 (by decide)), if_neg (hn 1 (by decide)), if_neg (hn 2 (by decide)),
    if_pos h3, if_neg (ne_true_of_eq_false ht), if_pos hm] at hx
  subst hx
  exact ⟨txBytes_sendVar _ _ _ _ _ _ _ _, rfl, rfl, rfl, rfl, rfl, rfl, sendVar_p _ _ _ _ _ _ _ _⟩

/-- C15, unbalanced master: after the acknowledge timeout and before the repeat timeout the
outstanding frame is repeated with the frame count bit it was sent with; bit, state and message stay. -/
theorem priU_repeat (c : SlaveConn) (l : LL) (now : Nat) (h4 : c.pstate = 4) (hle : c.lastSend ≤ now)
    (ha : now > c.lastSend + l.p.tAck) (hr : ¬ now > c.origSend + l.p.tRepeat) :
    txBytes (c.run l now).2.2 = (varFrame l.p.addrLen (ctrl 3 true false (!c.nextFcb) true) c.address c.msg).toList ∧
    (c.run l now).1.nextFcb = c.nextFcb ∧ (c.run l now).1.pstate = 4 ∧ (c.run l now).1.msg = c.msg := by
  rw [SlaveConn.run_state4 c l now h4 hle ha, if_neg hr]
  exact ⟨txBytes_sendVar _ _ _ _ _ _ _ _, rfl, h4, rfl⟩

/-- hence: the repetition is the identical frame -/
theorem priU_repetition_identical (c : SlaveConn) (l : LL) (t0 t1 : Nat) (h3 : c.pstate = 3)
    (ht : c.testFn = false) (hm : c.hasMsg = true) (hle : t0 ≤ t1) (ha : t1 > t0 + l.p.tAck)
    (hr : ¬ t1 > t0 + l.p.tRepeat) :
    txBytes (((c.run l t0).1).run (c.run l t0).2.1 t1).2.2 = txBytes (c.run l t0).2.2 := by
  obtain ⟨e0, e1, e2, e3, e4, e5, e6, e7⟩ := priU_new_frame c l t0 h3 ht hm
  have := priU_repeat (c.run l t0).1 (c.run l t0).2.1 t1 e2 (by rw [e4]; exact hle)
    (by rw [e4, e7]; exact ha) (by rw [e5, e7]; exact hr)
  rw [this.1, e0, e1, e3, e6, e7, Bool.not_not]

/-- C15, unbalanced master: after the repeat timeout nothing is sent any more and the link
is reported in error (state 1 = LL_STATE_ERROR), to be re-established from PLL_TIMEOUT. -/
theorem priU_gives_up (c : SlaveConn) (l : LL) (now : Nat) (h4 : c.pstate = 4) (hle : c.lastSend ≤ now)
    (ha : now > c.lastSend + l.p.tAck) (hr : now > c.origSend + l.p.tRepeat) :
    txBytes (c.run l now).2.2 = [] ∧ (c.run l now).1.pstate = 7 ∧ (c.run l now).1.state = 1 ∧
    (c.state ≠ 1 → Obs.st c.address 1 ∈ (c.run l now).2.2) := by
  rw [SlaveConn.run_state4 c l now h4 hle ha, if_pos hr]
  refine ⟨?_, rfl, rfl, fun hs => ?_⟩
  · show txBytes (if c.state ≠ 1 then _ else _) = []
    split <;> rfl
  · show _ ∈ (if c.state ≠ 1 then _ else _)
    rw [if_pos hs]; exact List.mem_singleton.mpr rfl

/-- C15, unbalanced master: every RESET REMOTE LINK restarts the frame count bit at 1
(both places that send it: here on STATUS OF LINK, and `priU_reset_restarts_sm`), and the
acknowledgement of the reset does not touch it (`priU_ack_of_reset_keeps_fcb`): the
first frame with FCV after an acknowledged reset carries FCB = 1 by `priU_new_frame`. -/
theorem priU_reset_restarts (c : SlaveConn) (l : LL) (now : Nat) (acd : Bool) (a : Int) (us : Nat) (ul : Int)
    (h1 : c.pstate = 1) :
    (c.handle l now 11 acd false a us ul).1.nextFcb = true ∧ (c.handle l now 11 acd false a us ul).1.pstate = 2 := by
  -- along the guards of `handle`: no DFC, function code 11, state 1
  generalize hr : c.handle l now 11 acd false a us ul = r
  delta SlaveConn.handle at hr
  extract_lets ps cD ns cN cA cM cT cW oU cQ at hr
  rw [if_neg Bool.false_ne_true, if_neg (by decide), if_neg (by decide), if_pos rfl, if_pos h1, SlaveConn.setState_eq] at hr
  subst hr
  exact ⟨rfl, rfl⟩

theorem priU_reset_restarts_sm (c : SlaveConn) (l : LL) (now : Nat) (h1 : c.pstate = 1) (hw : c.waiting = false) :
    (c.run l now).1.nextFcb = true ∧ (c.run l now).1.pstate = 2 := by
  unfold SlaveConn.run
  simp [h1, hw]

theorem priU_ack_of_reset_keeps_fcb (c : SlaveConn) (l : LL) (now : Nat) (acd : Bool) (a : Int) (us : Nat) (ul : Int)
    (h2 : c.pstate = 2) :
    (c.handle l now 0 acd false a us ul).1.nextFcb = c.nextFcb ∧ (c.handle l now 0 acd false a us ul).1.pstate = 3 := by
  generalize hr : c.handle l now 0 acd false a us ul = r
  delta SlaveConn.handle at hr
  extract_lets ps cD ns cN cA cM cT cW oU cQ at hr
  rw [if_neg Bool.false_ne_true, if_pos rfl, if_pos h2, SlaveConn.setState_eq] at hr
  subst hr
  exact ⟨by cases acd <;> rfl, rfl⟩

/-- balanced primary: the same three facts -/
theorem bal_new_frame (s : Bal) (now : Nat) (d : List Nat) (rest : List (List Nat)) (h3 : s.pstate = 3)
    (ht : s.testFn = false) (hi : ¬ now - s.lastReceived > s.idleTimeout) (hle : s.lastReceived ≤ now)
    (ho : s.out = d :: rest) :
    txBytes (s.priRun now).2 = (varFrame s.ll.p.addrLen (ctrl 3 true s.ll.dir s.nextFcb true) s.other d).toList ∧
    (s.priRun now).1.nextFcb = !s.nextFcb ∧ (s.priRun now).1.pstate = 4 ∧ (s.priRun now).1.lastAsdu = d ∧
    (s.priRun now).1.testSent = false := by
  have hn : ∀ n, n ≠ 3 → ¬ s.pstate = n := fun n hn e => hn (e.symm.trans h3)
  -- along the guards of `priRun`: state 3, neither clock correction nor idle time-out, no link test, the queue's head
  generalize hx : s.priRun now = r
  delta Bal.priRun at hx
  extract_lets +onlyGivenNames ps sC sR sI at hx
  have hR : sR = s := if_neg (Nat.not_lt.mpr hle)
  have hI : sI = s := (if_neg (hR ▸ hi)).trans hR
  rw [if_neg (hn 0 (by decide)), if_neg (hn 1 (by decide)), if_neg (hn 2 (by decide)), if_pos h3, hI,
    if_neg (ne_true_of_eq_false ht), ho] at hx
  subst hx
  exact ⟨txBytes_sendVar _ _ _ _ _ _ _ _, rfl, rfl, rfl, rfl⟩

theorem bal_repeat_identical (s : Bal) (now : Nat) (h4 : s.pstate = 4) (hts : s.testSent = false)
    (hle : s.lastSend ≤ now) (ha : now > s.lastSend + s.ll.p.tAck) (hr : ¬ now > s.origSend + s.ll.p.tRepeat) :
    txBytes (s.priRun now).2 = (varFrame s.ll.p.addrLen (ctrl 3 true s.ll.dir (!s.nextFcb) true) s.other s.lastAsdu).toList ∧
    (s.priRun now).1.nextFcb = s.nextFcb := by
  have hn : ∀ n, n ≠ 4 → ¬ s.pstate = n := fun n hn e => hn (e.symm.trans h4)
  generalize hx : s.priRun now = r
  delta Bal.priRun at hx
  extract_lets +onlyGivenNames ps sC at hx
  have hC : sC = s := if_neg (Nat.not_lt.mpr hle)
  rw [if_neg (hn 0 (by decide)), if_neg (hn 1 (by decide)), if_neg (hn 2 (by decide)), if_neg (hn 3 (by decide)),
    if_pos h4, hC, if_pos ha, if_neg hr, if_neg (ne_true_of_eq_false hts)] at hx
  subst hx
  exact ⟨txBytes_sendVar _ _ _ _ _ _ _ _, rfl⟩

theorem bal_reset_restarts_fcb (s : Bal) (now : Nat) (h1 : s.pstate = 1) :
    (s.priHandle now 11 false).1.nextFcb = true ∧ (s.priHandle now 11 false).1.pstate = 2 := by
  generalize hx : s.priHandle now 11 false = r
  delta Bal.priHandle at hx
  extract_lets +onlyGivenNames ps sL at hx
  rw [if_neg Bool.false_ne_true, if_neg (by decide), if_neg (by decide), if_neg (by decide), if_pos rfl, if_pos h1] at hx
  simp only [LL.sendFixed_eq, Bal.setState_eq] at hx
  subst hx
  exact ⟨rfl, rfl⟩

/-- Unbalanced slave: each confirmed user-data frame is delivered to the application exactly once, in order, however
often it (or any poll in between) is retransmitted: for every stream of requests (user data and class-1/2 polls, each
with the frame-count-valid bit) sent by a primary in step with the station, each repeated any number of times,
what `HandleReceivedData` sees is the user data of the frames, once each, in the order sent. -/
theorem secU_stream_exactly_once (s : SecU) (rs : List (Req × Nat)) (hq : s.view.QueuesOk) :
    rxOf (s.runStream rs).2 = (rs.map fun x => x.1.payload).flatten := by
  rw [(runStream_refines rs s hq).2.2, stream_rx]

/-- Repetitions are invisible: the application queues, the expected frame count bit and the stored response
at the end are those of the same stream without any repetition — in particular a repeated poll takes nothing
more from the class-1/2 queues. -/
theorem secU_repetitions_invisible (s : SecU) (rs : List (Req × Nat)) (hq : s.view.QueuesOk) :
    (s.runStream rs).1.view = (s.runStream (rs.map fun x => (x.1, 0))).1.view := by
  rw [(runStream_refines rs s hq).1, (runStream_refines _ s hq).1, stream_view_indep]

/-- A repeated request is answered by repeating the previous response: the octets written are those of the
specification, which gives the response to each accepted request `n + 1` times over (`stream_tx_cons`). -/
theorem secU_repeated_response_identical (s : SecU) (rs : List (Req × Nat)) (hq : s.view.QueuesOk) :
    txB (s.runStream rs).2 = (s.view.stream rs).2.1 := (runStream_refines rs s hq).2.1

theorem stream_tx_cons (v : View) (r : Req) (n : Nat) (rest : List (Req × Nat)) :
    (v.stream ((r, n) :: rest)).2.1 =
      (List.replicate (n + 1) ((v.accept r).resp r)).flatten ++ ((v.accept r).stream rest).2.1 := rfl

theorem stream_fcb (rs : List (Req × Nat)) : ∀ v : View,
    (v.stream rs).1.expectedFcb = (if rs.length % 2 = 0 then v.expectedFcb else !v.expectedFcb) := by
  induction rs with
  | nil => intro v; rfl
  | cons x rest ih =>
    intro v
    obtain ⟨r, n⟩ := x
    show ((v.accept r).stream rest).1.expectedFcb = _
    rw [ih, accept_toggles]
    exact parity_step _ _

/-- the expected bit after a stream: toggled once per request, whatever the repetitions -/
theorem secU_stream_fcb (s : SecU) (rs : List (Req × Nat)) (hq : s.view.QueuesOk) :
    (s.runStream rs).1.expectedFcb = (if rs.length % 2 = 0 then s.expectedFcb else !s.expectedFcb) := by
  have : (s.runStream rs).1.expectedFcb = (s.runStream rs).1.view.expectedFcb := rfl
  rw [this, (runStream_refines rs s hq).1, stream_fcb]; rfl

def demoSec : SecU := { ll := { p := ⟨1, 200, 1000, false, 500, by omega⟩, address := 5 }, c2 := [[9, 9]] }
/-- non-vacuity (a test): data, a poll repeated twice, data repeated once — two deliveries, one queue entry taken -/
example : rxOf (demoSec.runStream
    [(.data [0, 0, 0, 0, 0, 0, 1, 2] 6 2, 0), (.poll [] false, 2), (.data [0, 0, 0, 0, 0, 0, 3] 6 1, 1)]).2 = [[1, 2], [3]] := by decide
example : (demoSec.runStream [(.poll [] false, 2)]).1.c2 = [] := by decide
example : demoSec.view.QueuesOk := ⟨by decide, by decide⟩

/-- Balanced station: each confirmed user-data frame is delivered to the application exactly once, in order,
however often it is retransmitted and whatever the application answers to each copy. -/
theorem bal_stream_exactly_once (s : Bal) (rs : List (BReq × Bool × List Bool)) :
    rxOf (s.runData rs).2 = (rs.map fun x => x.1.payload).flatten := (bal_runData_spec rs s).1

theorem bal_stream_fcb (s : Bal) (rs : List (BReq × Bool × List Bool)) :
    (s.runData rs).1.expectedFcb = (if rs.length % 2 = 0 then s.expectedFcb else !s.expectedFcb) := (bal_runData_spec rs s).2

/-- Frame count bit of the unbalanced master, over every history.  Take a slave connection of the CS101 master as
`LinkLayerPrimaryUnbalanced_addSlaveConnection` creates it and ANY sequence of: state-machine runs at any times, received
frames of any function code / DFC / ACD in any state (acknowledgements, NACKs, status, data, garbage function codes),
user data handed over by the application (that fits a frame), poll and link-test requests. Then, among the frames written
for that slave, in the order they are written: a RESET REMOTE LINK starts a new round; the first frame with FCV = 1 of a
round carries FCB = 1; every further FCV frame either toggles the bit or is octet for octet the FCV frame before it (a
retransmission after an acknowledgement time-out) - `trackAll` never reports a violation. -/
theorem master_fcb_discipline (aL a : Nat) (l : LL) (hl : l.p.addrLen = aL) (ops : List FOp) :
    ∃ last, trackAll none (FOp.runAll ({ address := a }, l) ops) = some last :=
  runAll_fcb ops ({ address := a }, l) none (by show J l.p.addrLen _ none; rw [hl]; exact J_init aL a)

/-- the tracker does reject what the property forbids: after a reset a first FCV frame with FCB = 0, and a changed frame
under an unchanged bit -/
example : track none (fixedFrame 1 (ctrl 10 true false false true) 5) = none ∧
    track (some (fixedFrame 1 (ctrl 10 true false true true) 5)) (fixedFrame 1 (ctrl 11 true false true true) 5) = none ∧
    track (some (fixedFrame 1 (ctrl 10 true false true true) 5)) (fixedFrame 1 (ctrl 11 true false false true) 5) =
      some (some (fixedFrame 1 (ctrl 11 true false false true) 5)) := by decide

/-- non-vacuity on a concrete history: status request, RESET REMOTE LINK, two polls - the control octets written are
0x49 (FC 9), 0x40 (FC 0), 0x7a (FC 10, FCV, FCB = 1), 0x5b (FC 11, FCV, FCB = 0) -/
def fcbDemoLL : LL := { p := ⟨1, 200, 1000, false, 500, by omega⟩, address := 0, buf := [] }
example : (FOp.runAll ({ address := 5 }, fcbDemoLL) [.run 0, .handle 10 11 false false 5 0 0, .handle 20 0 false false 5 0 0,
      .run 30, .req1, .run 40, .handle 50 9 false false 5 0 0, .req2, .run 60]).filterMap
      (fun o => match o with | .tx f => some (ctrlOf f.bytes) | _ => none) = [0x49, 0x40, 0x7a, 0x5b] := by decide

/-- Frame count bit of the balanced station's primary part, over every history.  For a balanced station as
`LinkLayerBalanced_create` makes it and ANY sequence of primary state-machine runs, frames handled by its primary part (any
function code, DFC), frames handled by its secondary part (which writes acknowledgements and status frames with PRM = 0),
user data queued by the application (that fits a frame) and link-test requests: among the frames it writes with PRM = 1,
the first FCV frame after a RESET REMOTE LINK carries FCB = 1 and every further one toggles the bit or is octet for octet
the FCV frame before it; the frames of the secondary part are not concerned and never disturb the count. -/
theorem balanced_fcb_discipline (l : LL) (other : Nat) (ops : List BOp) :
    ∃ last, trackAllB none (BOp.runAll { ll := l, other := other } ops) = some last :=
  runAllB_fcb ops { ll := l, other := other } none (JB_init l other)

end Iec.Props.C15

