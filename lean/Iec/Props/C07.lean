import Iec.Props.C05
import Iec.Lemmas.Srv104ITx
/-
C07 — CS104 server data-transfer state machine (STARTDT / STOPDT / TESTFR).

Statement (properties.jsonl): I-format APDUs are sent only after STARTDT was confirmed and
never after STOPDT act (or deactivation); STARTDT act and TESTFR act are always answered
with the matching con; STOPDT act is answered with STOPDT con only once every transmitted
event ASDU has been acknowledged, after first acknowledging received I-frames; an I-format
APDU on a connection that is not started, or an S-format APDU in the stopped state, closes
the connection.

Theorems on `Iec.Srv104.handleMessage` (step properties, for every state of the server):
`startdt_answered`, `testfr_answered`, `sframe_stopped_closes`, `send_requires_started`
(responses), `periodic_not_started` (events: `sendWaitingASDUs` runs only in state STARTED),
and C05 `not_started_closes` for I-frames.  The STOPDT sequence: `stopdt_sequence` (the complete output of the step: S-frame first,
STOPDT con only without unconfirmed events, resulting state) and `stopdt_con_after_ack` (the deferred con in
UNCONFIRMED_STOPPED).  Every transmission site: `iframes_only_on_started_connection` (`Lemmas/Srv104ITx.lean`).  Over every history:
`iframes_only_while_activated` (`Lemmas/Srv104ITx.lean`: `jinv_atom`, `run_jinv`; `Lemmas/Srv104LifeLog.lean`): every I-format APDU in the wire log
was written while the last event of its slot was ACTIVATED - after the STARTDT handling that reported it and before any
DEACTIVATED (STOPDT act, activation of another connection of the group) or CLOSED.
-/
namespace Iec.Props.C07
open Iec.Srv104 Iec.KWindow

def sockOk (s : Slave) (i : Nat) : Prop := (s.conn i).sock.writeFail = false ∧ (s.conn i).sock.peerClosed = false

/-- TESTFR act is answered with TESTFR con in every state -/
theorem testfr_answered (s : Slave) (i : Nat) (h : sockOk s i) :
    (handleMessage s i [0x68, 4, 0x43, 0, 0, 0]).2 = true ∧
    (handleMessage s i [0x68, 4, 0x43, 0, 0, 0]).1.log = s.log ++ [.tx i TESTFR_CON] := by
  rw [handleMessage_testfr]
  unfold hmTestFR
  rw [write_ok s i h.1 h.2]
  exact ⟨rfl, rfl⟩

/-- STARTDT act is answered with STARTDT con, and the connection is started afterwards -/
theorem startdt_answered (s : Slave) (i : Nat) (hi : i < s.conns.length) (h : sockOk s i) :
    (handleMessage s i [0x68, 4, 0x07, 0, 0, 0]).2 = true ∧
    ((handleMessage s i [0x68, 4, 0x07, 0, 0, 0]).1.conn i).state = 1 ∧
    (handleMessage s i [0x68, 4, 0x07, 0, 0, 0]).1.log.getLast? = some (.tx i STARTDT_CON) := by
  rw [handleMessage_startdt]
  unfold hmStartDT
  extract_lets s1 g s2
  -- `CS104_Slave_activate` and the reset of the response queue leave the socket of connection `i` alone
  have hc : s2.conn i = { s.conn i with state := 1 } := (grp_conn s1 _ _ i).trans (activate_self s i hi).1
  rw [write_ok s2 i (by rw [hc]; exact h.1) (by rw [hc]; exact h.2)]
  simp only [↓reduceIte]
  -- from here `s2` is any state with `hc`: left in place, its value invites the unifier to unfold `activate`
  clear_value s2
  have hst : (s2.conn i).state = 1 := by rw [hc]
  exact ⟨trivial, conn_setConn_either (P := fun c => c.state = 1) (emit s2 _) i _ hst hst, List.getLast?_concat⟩

/-- an S-format APDU in the stopped state closes the connection (when its N(R) is valid;
an invalid N(R) closes it as well) -/
theorem sframe_stopped_closes (s : Slave) (i : Nat) (hi : i < s.conns.length) (lo hi8 : Nat)
    (hst : (s.conn i).state = 0) : (handleMessage s i [0x68, 4, 0x01, 0, lo, hi8]).2 = false := by
  rw [handleMessage_sframe]
  unfold hmS
  extract_lets nr
  obtain ⟨w, gs, e⟩ := checkSeqConn_fst s i nr
  generalize checkSeqConn s i nr = r at e
  obtain ⟨s2, ok⟩ := r
  dsimp only at e ⊢
  cases ok with
  | false => rfl
  | true =>
    have h0 : (s2.conn i).state = 0 := by
      rw [e]; exact (congrArg Conn.state (conn_setConn s i _ hi)).trans hst
    rw [if_neg (by decide), if_neg (by rw [h0]; decide), if_pos h0]

/-- responses and events are transmitted only on a started connection -/
theorem send_requires_started (s : Slave) (i : Nat) (asdu : List Nat) (hst : (s.conn i).state ≠ 1) :
    sendAsduInternal s i asdu = (s, false) := by
  unfold sendAsduInternal; exact if_neg hst

theorem periodic_not_started (s : Slave) (i : Nat) (hst : (s.conn i).state ≠ 1) :
    periodic s i = (let r := handleTimeouts s i; if !r.2 then r.1.setConn i { r.1.conn i with isRunning := false } else r.1) := by
  unfold periodic; rw [if_neg hst]

/-- the end of the STOPDT sequence on a socket that takes what is written: STOPDT con is sent, and the connection STOPPED,
exactly when no transmitted event is unconfirmed -/
theorem stopdt_tail (s : Slave) (i : Nat) (hi : i < s.conns.length) (h : sockOk s i) {r : Slave × Bool}
    (hr : r = if hasUnconfirmed s i then (t3upd s i, true) else
      match write (s.setConn i { s.conn i with state := 0 }) i STOPDT_CON with
      | (s, ok) => if ok then (t3upd s i, true) else (s, false)) :
    ∃ t, r = (t, true) ∧ t.log = s.log ++ (if hasUnconfirmed s i then [] else [.tx i STOPDT_CON]) ∧
      (t.conn i).state = (if hasUnconfirmed s i then (s.conn i).state else 0) ∧ (t.conn i).unconf = (s.conn i).unconf := by
  subst hr
  rw [write_setConn_ok s i hi { s.conn i with state := 0 } h.1 h.2]
  cases hasUnconfirmed s i
  · have hc : ((s.setConn i { s.conn i with state := 0 }).conn i).state = 0 ∧
        ((s.setConn i { s.conn i with state := 0 }).conn i).unconf = (s.conn i).unconf := by
      rw [conn_setConn s i _ hi]; exact ⟨rfl, rfl⟩
    exact ⟨_, rfl, rfl,
      conn_setConn_either (P := fun c => c.state = 0 ∧ c.unconf = (s.conn i).unconf) (emit _ _) i _ hc hc⟩
  · exact ⟨_, rfl, (List.append_nil _).symm,
      conn_setConn_either (P := fun c => c.state = (s.conn i).state ∧ c.unconf = (s.conn i).unconf) s i _ ⟨rfl, rfl⟩ ⟨rfl, rfl⟩⟩

/-- the acknowledgement inside the STOPDT sequence, on a socket that takes it: everything received is acknowledged by
one S-format APDU, if there is anything; the queues and the rest of the record stay -/
theorem stopdt_ack (s : Slave) (i : Nat) (hi : i < s.conns.length) (h : sockOk s i) {t : Slave}
    (ht : t = if (s.conn i).unconf > 0 then
        sendS (s.setConn i { s.conn i with lastConf := some s.now, unconf := 0, t2Triggered := false }) i else s) :
    t.log = s.log ++ (if (s.conn i).unconf > 0 then
        [.tx i [0x68, 0x04, 0x01, 0, seqLo (s.conn i).vr, seqHi (s.conn i).vr]] else []) ∧
    t.groups = s.groups ∧ t.p = s.p ∧ t.conns.length = s.conns.length ∧ (t.conn i).group = (s.conn i).group ∧
    (t.conn i).sock = (s.conn i).sock ∧ (t.conn i).state = (s.conn i).state ∧ (t.conn i).unconf = 0 := by
  subst ht
  by_cases hu : (s.conn i).unconf > 0
  · rw [if_pos hu, if_pos hu,
      sendS_setConn_ok s i hi { s.conn i with lastConf := some s.now, unconf := 0, t2Triggered := false } h.1 h.2]
    refine ⟨rfl, rfl, rfl, setConn_len _ _ _, ?_⟩
    show ((s.setConn i _).conn i).group = _ ∧ ((s.setConn i _).conn i).sock = _ ∧ ((s.setConn i _).conn i).state = _ ∧
      ((s.setConn i _).conn i).unconf = 0
    rw [conn_setConn s i _ hi]
    exact ⟨rfl, rfl, rfl, rfl⟩
  · rw [if_neg hu, if_neg hu]
    exact ⟨(List.append_nil _).symm, rfl, rfl, rfl, rfl, rfl, rfl, Nat.eq_zero_of_not_pos hu⟩

/-- STOPDT act: received I-frames are acknowledged first, and STOPDT con is sent only when no event ASDU
transmitted on the connection is still unacknowledged — the complete output of the step, for every server state:
(DEACTIVATED event when the connection was started), then the S-frame with V(R) when anything received is
unacknowledged, then STOPDT con exactly when the event queue holds no transmitted-but-unconfirmed entry; the connection
is STOPPED in that case and UNCONFIRMED_STOPPED otherwise (STOPDT con then follows the acknowledging S-frame,
`stopdt_con_after_ack`). -/
theorem stopdt_sequence (s : Slave) (i : Nat) (hi : i < s.conns.length) (h : sockOk s i) :
    let r := handleMessage s i [0x68, 4, 0x13, 0, 0, 0]
    r.2 = true ∧
    r.1.log = s.log
      ++ (if (s.conn i).isUsed && (s.conn i).state = 1 then [.ev i "DEACTIVATED"] else [])
      ++ (if (s.conn i).unconf > 0 then [.tx i [0x68, 0x04, 0x01, 0, seqLo (s.conn i).vr, seqHi (s.conn i).vr]] else [])
      ++ (if hasUnconfirmed s i then [] else [.tx i STOPDT_CON]) ∧
    (r.1.conn i).state = (if hasUnconfirmed s i then 2 else 0) ∧ (r.1.conn i).unconf = 0 := by
  intro r
  have hr : r = hmStopDT s i := handleMessage_stopdt s i
  clear_value r
  unfold hmStopDT at hr
  simp only [] at hr
  -- the three parts: deactivation (`s0`), acknowledgement (`s1`), STOPDT con
  generalize hs0 : deactivate s i = s0 at hr
  generalize hs1 : (if (s0.conn i).unconf > 0 then
      sendS (s0.setConn i { s0.conn i with lastConf := some s0.now, unconf := 0, t2Triggered := false }) i else s0) = s1 at hr
  obtain ⟨hc0, hlog0⟩ := deactivate_i s i hi
  obtain ⟨hl0, hp0, _, hg0, _⟩ := deactivate_facts s i
  rw [hs0] at hc0 hlog0 hl0 hp0 hg0
  obtain ⟨l1, g1, p1, n1, gr1, so1, st1, un1⟩ := stopdt_ack s0 i (by rw [hl0]; exact hi) (by unfold sockOk; rw [hc0]; exact h) hs1.symm
  rw [hc0] at l1 gr1 so1 st1
  obtain ⟨t, ht, t2, t3, t4⟩ := stopdt_tail s1 i (by rw [n1, hl0]; exact hi) (by unfold sockOk; rw [so1]; exact h) hr
  have hu : hasUnconfirmed s1 i = hasUnconfirmed s i := by
    unfold hasUnconfirmed Slave.gidx Slave.grp; rw [g1, hg0, p1, hp0, gr1]
  rw [hu] at t2 t3
  rw [ht]
  exact ⟨rfl, by rw [t2, l1, hlog0], by rw [t3, st1], t4.trans un1⟩

/-- … and the deferred STOPDT con: in UNCONFIRMED_STOPPED an S-format APDU with a valid N(R) is answered with
STOPDT con exactly when, after its acknowledgement has been applied, no transmitted event is left unconfirmed; the
connection is then STOPPED, and otherwise stays UNCONFIRMED_STOPPED without any output. -/
theorem stopdt_con_after_ack (s : Slave) (i : Nat) (hi : i < s.conns.length) (h : sockOk s i) (lo hi8 : Nat)
    (hst : (s.conn i).state = 2) (hv : valid (s.conn i).vs (s.conn i).win ((lo + hi8 * 0x100) / 2) = true) :
    let s1 := (checkSeqConn s i ((lo + hi8 * 0x100) / 2)).1
    let r := handleMessage s i [0x68, 4, 0x01, 0, lo, hi8]
    r.2 = true ∧
    r.1.log = s.log ++ (if hasUnconfirmed s1 i then [] else [.tx i STOPDT_CON]) ∧
    (r.1.conn i).state = (if hasUnconfirmed s1 i then 2 else 0) := by
  intro s1 r
  obtain ⟨w, gs, e⟩ := checkSeqConn_fst s i ((lo + hi8 * 0x100) / 2)
  have e : s1 = _ := e
  have hc : s1.conn i = { s.conn i with win := w } := by rw [e]; exact conn_setConn s i _ hi
  have hr : r = if hasUnconfirmed s1 i then (t3upd s1 i, true) else
      match write (s1.setConn i { s1.conn i with state := 0 }) i STOPDT_CON with
      | (s, ok) => if ok then (t3upd s i, true) else (s, false) := by
    show handleMessage s i [0x68, 4, 0x01, 0, lo, hi8] = _
    rw [handleMessage_sframe]
    unfold hmS
    extract_lets nr
    have hcs : checkSeqConn s i nr = (s1, true) := Prod.ext rfl ((checkSeqConn_snd s i nr).trans hv)
    rw [hcs]
    dsimp only
    rw [if_neg (by decide), if_pos (by rw [hc]; exact hst)]
    cases hasUnconfirmed s1 i <;> rfl
  obtain ⟨t, ht, t2, t3, _⟩ := stopdt_tail s1 i (by rw [e]; exact (setConn_len s i _).symm ▸ hi)
    (by unfold sockOk; rw [hc]; exact h) hr
  rw [ht]
  exact ⟨rfl, by rw [t2, e]; rfl, by rw [t3, hc]; exact hst ▸ rfl⟩

/-- The server sends I-format APDUs on a connection only while it is STARTED: the two units of work the server
performs for a connection `j` - taking a message from its socket (any message, any state: replies of the application,
everything `handleMessage` does) and its periodic tasks (parked replies, waiting events, timeouts) - append to the wire
log only I-format APDUs that are on connection `j` itself, and none unless `j` is in state STARTED when the unit
begins; every other function of a tick (admission, reaping) writes nothing.  Together with `one_started_per_group`'s
frame (a connection becomes STARTED only in `activate`, i.e. on STARTDT act: `shrink_frame`, `Lemmas/Srv104OneStarted.lean`) and
`stopdt_sequence` (STOPDT act leaves STARTED before anything else happens) this is the first sentence of the property
over every history. -/
theorem iframes_only_on_started_connection (s : Slave) (j : Nat) :
    (∃ l, (handleTcpConnection s j).log = s.log ++ l ∧
      ∀ c b, Obs.tx c b ∈ l → isI b → c = j ∧ (s.conn j).state = 1) ∧
    (∃ l, (periodic s j).log = s.log ++ l ∧
      ∀ c b, Obs.tx c b ∈ l → isI b → c = j ∧ (s.conn j).state = 1) :=
  ⟨iext_handleTcpConnection s j, iext_periodic s j⟩

/-- in particular a message on a connection that is not started never causes an I-format APDU -/
theorem no_iframe_unless_started (s : Slave) (j : Nat) (h : (s.conn j).state ≠ 1) :
    ∃ l, (handleTcpConnection s j).log = s.log ++ l ∧ ∀ c b, Obs.tx c b ∈ l → ¬ isI b := by
  obtain ⟨l, e, p⟩ := iext_handleTcpConnection s j
  exact ⟨l, e, fun c b hm hi => h (p c b hm hi).2⟩

/-- I-format APDUs only on a started connection, over every history.  From a freshly created server, after any sequence
of ticks (accept, receive, STARTDT / STOPDT, transmission of events and replies, time-outs, reaping), enqueues and
environment events: take any I-format APDU in the wire log; the connection events reported for its slot before it end with
ACTIVATED (`lifeOf … = 2`: OPENED, then ACTIVATED / DEACTIVATED alternating, the last one ACTIVATED) - i.e. it was written
after the server handled STARTDT act on that connection (which reports ACTIVATED and writes STARTDT con, `startdt_answered`)
and before STOPDT act, deactivation by another connection, or the end of the connection (which report DEACTIVATED / CLOSED
first, `stopdt_sequence`). -/
theorem iframes_only_while_activated (p : Params) (gs : List (String × List (Bool × List Nat))) (ops : List LOp)
    (l1 l2 : List Obs) (c : Nat) (b : List Nat) (hlog : (ops.foldl LOp.apply (create p gs)).log = l1 ++ Obs.tx c b :: l2)
    (hI : isI b) : lifeOf l1 c = 2 :=
  (run_jinv p gs ops).2 l1 c b l2 hlog hI

/-- non-vacuity on a concrete history: connect, STARTDT act, one event enqueued - the log ends with an I-format APDU on
slot 0, and the events before it are OPENED, ACTIVATED -/
example : let s := ([LOp.env (lenvPending {}), .tick, .env (lenvFeed 0 [0x68, 4, 7, 0, 0, 0]), .tick,
      .enqueue [1, 1, 3, 0, 1, 0, 5, 0, 0, 1], .tick] : List LOp).foldl LOp.apply (create lifeDemoParams [])
    s.log.map (fun o => match o with | .ev _ w => w | .tx _ f => if f.getD 2 1 % 2 = 0 then "I" else "tx" | _ => "?") =
      ["OPENED", "ACTIVATED", "tx", "I"] := by decide

end Iec.Props.C07
