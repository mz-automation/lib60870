/-
C20 — file transfer through the file-service plugin is byte-exact and checksummed.

Model: Iec.FileSrv (file_server.c: handleAsdu + runTask over decoded requests, application side
as explicit environment), byte layer Iec.FileSrvBytes; tie: checks/c20.py (differential of the
real plugin against the model after every operation + model-free oracles).

Decided here, for files of 1..254 non-empty sections of ANY sizes, ANY segment size >= 1, ANY
number of negative section acknowledgements per section, from ANY idle server state (whatever an
earlier, possibly abandoned transfer left in the other fields):

* `download_procedure`      the complete reply trace of the server to a procedure-following master
* `download_receives_file`  the master reassembles exactly the octets of the file
* `download_segments_fit`   no segment is longer than the segment size
* `download_section_checksums`, `download_file_checksum`   LAST SEGMENT / LAST SECTION carry the
                            modulo-256 sums of the section / the file, also after repeated sections
* `download_provider_told`  the provider is told success, once (at the end: `download_file_checksum`)

and, from any state outside a download, for ARBITRARY histories (any requests of any type in any order on any
connection, truncated or unrelated ASDUs, repeated messages, any clock with any number of supervision timeouts,
uploads in between), as long as the master does not itself decline a section with a negative CALL SECTION:

* `success_only_if_all_octets`  at every point where `transferComplete(true)` is reported, the octets a
                            procedure-following master has reassembled from the messages sent so far in this
                            transfer are exactly the file (and no pass is half-received)

Upload (the master sends a file to the receiver callback):

* `upload_procedure`        from ANY server state, for ANY sections cut into ANY segments: the receiver callback
                            gets every segment in order at offset = octets of the section delivered before it,
                            every section and the file are acknowledged positively, `finished(SUCCESS)` is reported
* `upload_receives_file`    the octets handed to the receiver, in order, are the file
* `upload_success_only_if_complete`  from any state outside an upload, for ARBITRARY histories: at every
                            `finished(SUCCESS)` the octets delivered to the receiver in positively acknowledged sections
                            are exactly as many as the master announced in FILE READY, and every segment so far was
                            delivered at the right offset (invariant `GoodU`: the server's received length and file
                            checksum are those of the acknowledged octets, its section offset and checksum those of the
                            pass in progress; by `onLastSeg_cases` the model acknowledges a section positively only when
                            `secOff = secSize` and the checksum in LAST SEGMENT equals `secChk`).  That the octets
                            themselves equal what the master sent is proved for the procedure-following master only.

Hypotheses that the statement of C20 does not make and that the proof needs — both recorded in
DESIGN.md: sections are non-empty and there is at least one (an EMPTY file is announced as an
empty section 1 and the procedure cannot complete: observation, not claimed); at most 254 sections
(the section name is one octet).
-/
import Iec.Lemmas.FileSrvUpload
namespace Iec.Props.C20
open Iec.FileSrv

/-- the sections of the file with the number of negative acknowledgements the master gives to each -/
abbrev Plan := List (List Nat × Nat)

/-- `plan` describes the file offered by `e`: 1..254 non-empty sections -/
structure PlanFor (e : Env) (plan : Plan) : Prop where
  file : plan.map Prod.fst = e.file
  nonempty : plan ≠ []
  sections : ∀ p ∈ plan, p.1 ≠ []
  count : plan.length ≤ 254

/-- C20, download.  The server's replies to a master that follows select / call file / call section /
acknowledge, with any number of negative section acknowledgements, are exactly `downloadOut`: FILE READY with
the file length, per section SECTION READY with the section length, per pass the section cut into segments
followed by LAST SEGMENT, after the last section LAST SECTION, and `transferComplete(true)` at the positive
file acknowledgement.  Holds from every idle state. -/
theorem download_procedure (e : Env) (s0 : Srv) (conn now oa : Nat) (plan : Plan)
    (hf : e.hasFiles = true) (hp : PlanFor e plan) (hst : s0.st = .idle) (hseg : 0 < s0.maxSeg) :
    ∃ s', run e s0 (downloadOps e conn now oa s0.maxSeg plan) = (s', downloadOut e conn s0.oa oa s0.maxSeg plan) ∧
      s'.st = .idle ∧ s'.selected = false := by
  obtain ⟨file, nonempty, sections, count⟩ := hp
  cases plan with
  | nil => exact absurd rfl nonempty
  | cons p tl =>
    obtain ⟨sec, k⟩ := p
    exact download_run e s0 conn now oa sec k tl hf file sections (by simpa using count) hst hseg

/-- C20, byte-exact.  What a procedure-following master holds at the end (octets of every accepted pass,
repeated passes discarded) is the file. -/
theorem download_receives_file (e : Env) (s0 : Srv) (conn now oa : Nat) (plan : Plan)
    (hf : e.hasFiles = true) (hp : PlanFor e plan) (hst : s0.st = .idle) (hseg : 0 < s0.maxSeg) :
    received (run e s0 (downloadOps e conn now oa s0.maxSeg plan)).2 = e.file.flatten := by
  obtain ⟨s', h, _, _⟩ := download_procedure e s0 conn now oa plan hf hp hst hseg
  rw [h]
  cases plan with
  | nil => exact absurd rfl hp.nonempty
  | cons p tl => exact received_download e conn s0.oa oa s0.maxSeg hseg p tl hp.file

/-- C20, segment size.  No segment sent during the download carries more than `maxSeg` octets. -/
theorem download_segments_fit (e : Env) (s0 : Srv) (conn now oa : Nat) (plan : Plan)
    (hf : e.hasFiles = true) (hp : PlanFor e plan) (hst : s0.st = .idle) (hseg : 0 < s0.maxSeg)
    (c o' ca ioa nof j : Nat) (d : List Nat)
    (hm : Out.send c o' ca ioa nof (.segment j d) ∈ (run e s0 (downloadOps e conn now oa s0.maxSeg plan)).2) :
    d.length ≤ s0.maxSeg := by
  obtain ⟨s', h, _, _⟩ := download_procedure e s0 conn now oa plan hf hp hst hseg
  rw [h] at hm
  have key : ∀ o ∈ downloadOut e conn s0.oa oa s0.maxSeg plan, match o with
      | .send _ _ _ _ _ (.segment _ d) => d.length ≤ s0.maxSeg
      | _ => True :=
    downloadOut_forall trivial trivial trivial
      (secOut_forall (fun _ _ hl => hl) (fun _ _ => trivial) plan 1 0 (fun _ _ => trivial) (fun _ _ => trivial)) trivial
  exact key _ hm

/-- C20, section checksums.  Every LAST SEGMENT of the download names a section of the file and carries
the modulo-256 sum of that section's octets — in the first pass and in every repeated pass. -/
theorem download_section_checksums (e : Env) (s0 : Srv) (conn now oa : Nat) (plan : Plan)
    (hf : e.hasFiles = true) (hp : PlanFor e plan) (hst : s0.st = .idle) (hseg : 0 < s0.maxSeg)
    (c o' ca ioa nof j chs : Nat)
    (hm : Out.send c o' ca ioa nof (.lastSegment j chs) ∈ (run e s0 (downloadOps e conn now oa s0.maxSeg plan)).2) :
    ∃ sec, e.file[j - 1]? = some sec ∧ 1 ≤ j ∧ chs = sec.sum % 256 := by
  obtain ⟨s', h, _, _⟩ := download_procedure e s0 conn now oa plan hf hp hst hseg
  rw [h] at hm
  have key : ∀ o ∈ downloadOut e conn s0.oa oa s0.maxSeg plan, match o with
      | .send _ _ _ _ _ (.lastSegment j chs) => ∃ sec, e.file[j - 1]? = some sec ∧ 1 ≤ j ∧ chs = sec.sum % 256
      | _ => True :=
    downloadOut_forall trivial trivial trivial (secOut_forall (fun _ _ _ => trivial) (fun _ _ => trivial) plan 1 0
      (fun i hi => ⟨plan[i].1, by rw [← hp.file]; simp [hi], by omega, rfl⟩) (fun _ _ => trivial)) trivial
  exact key _ hm

/-- C20, file checksum.  The download trace ends with LAST SECTION carrying the modulo-256 sum of all
octets of the file, followed only by the report to the provider — whatever sections were repeated. -/
theorem download_file_checksum (e : Env) (s0 : Srv) (conn now oa : Nat) (plan : Plan)
    (hf : e.hasFiles = true) (hp : PlanFor e plan) (hst : s0.st = .idle) (hseg : 0 < s0.maxSeg) :
    ∃ pre, (run e s0 (downloadOps e conn now oa s0.maxSeg plan)).2 = pre ++
      [Out.send conn oa e.fca e.fioa e.fnof (.lastSection (1 + plan.length) (e.file.flatten.sum % 256)), Out.complete true] := by
  obtain ⟨s', h, _, _⟩ := download_procedure e s0 conn now oa plan hf hp hst hseg
  rw [h]
  obtain ⟨pre, hpre⟩ := downloadOut_last e conn s0.oa oa s0.maxSeg plan hp.nonempty
  exact ⟨pre, by rw [← hpre, hp.file]; rfl⟩

/-- C20, outcome.  The provider is told the outcome: success, exactly once (as the last event: `download_file_checksum`). -/
theorem download_provider_told (e : Env) (s0 : Srv) (conn now oa : Nat) (plan : Plan)
    (hf : e.hasFiles = true) (hp : PlanFor e plan) (hst : s0.st = .idle) (hseg : 0 < s0.maxSeg) :
    ((run e s0 (downloadOps e conn now oa s0.maxSeg plan)).2.filter (fun o => o matches .complete _)) = [Out.complete true] := by
  obtain ⟨s', h, _, _⟩ := download_procedure e s0 conn now oa plan hf hp hst hseg
  rw [h]
  have hnone : ∀ o ∈ secOut e conn s0.oa oa s0.maxSeg 1 0 plan, (o matches .complete _) = false :=
    secOut_forall (fun _ _ _ => rfl) (fun _ _ => rfl) plan 1 0 (fun _ _ => rfl) (fun _ _ => rfl)
  unfold downloadOut
  simp only [List.filter_cons, List.filter_append]
  rw [List.filter_eq_nil_iff.mpr (by intro o ho; simp [hnone o ho])]
  simp

/-- C20, safety.  Whatever unrelated, out-of-sequence or repeated messages and timeouts occur: success is
reported to the provider only when every octet of the file has been transferred.  `ops` is any history of
ASDUs and task calls (any connection, any clock) in which the master does not decline a section; the server
starts in any state outside a download (in particular the fresh one).  `SafeFrom`: at each `complete true`
in the trace the reassembly of everything sent before it equals the file. -/
theorem success_only_if_all_octets (e : Env) (ok : FileOk e) (s0 : Srv) (h0 : Inert s0.st) (ops : List Op)
    (hnd : ∀ op ∈ ops, NoDecline op) :
    SafeFrom e.file.flatten ⟨[], [], 0⟩ (run e s0 ops).2 :=
  run_safe ok ops s0 ⟨[], [], 0⟩ (Good.of_inert h0) hnd

/-- the same from any state reached by any such history (the invariant is inductive) -/
theorem invariant_inductive (e : Env) (ok : FileOk e) (s : Srv) (r : Rx) (g : Good e s r) (op : Op) (hnd : NoDecline op) :
    Good e (step e s op).1 (rxFold r (step e s op).2) := step_good ok g op hnd

/-- C20, upload.  A master that follows FILE READY / SECTION READY / SEGMENT* / LAST SEGMENT / ... / LAST SECTION,
whatever state the server was in before, however it cuts the sections into segments: the complete sequence of
callbacks and replies is `uploadOut`. -/
theorem upload_procedure (e : Env) (i : UpId) (conn now : Nat) (secs : List (List (List Nat))) (s0 : Srv)
    (hr : e.hasReady = true) (ha : e.accept = true) :
    ∃ s', run e s0 (uploadOps i conn now secs) = (s', uploadOut i conn secs) ∧ s'.st = .idle :=
  upload_run e i conn now secs s0 hr ha

/-- octets handed to the receiver callback, in the order of the calls -/
def delivered : List Out → List Nat
  | [] => []
  | .segRecv _ _ d :: os => d ++ delivered os
  | _ :: os => delivered os

theorem delivered_append (a b : List Out) : delivered (a ++ b) = delivered a ++ delivered b := by
  induction a with
  | nil => rfl
  | cons o os ih => cases o <;> simp [delivered, ih, List.append_assoc]

theorem delivered_segRecvs (n : Nat) : ∀ (segs : List (List Nat)) (off : Nat), delivered (segRecvs n off segs) = segs.flatten := by
  intro segs
  induction segs with
  | nil => intro _; rfl
  | cons d ds ih => intro off; simp [segRecvs, delivered, ih]

theorem delivered_upSecOut (i : UpId) (conn : Nat) : ∀ (secs : List (List (List Nat))) (n : Nat),
    delivered (upSecOut i conn n secs) = (secs.map List.flatten).flatten := by
  intro secs
  induction secs with
  | nil => intro _; rfl
  | cons segs rest ih =>
    intro n
    simp [upSecOut, delivered, delivered_append, delivered_segRecvs, ih]

/-- C20, upload is octet-exact.  The data of the receiver callbacks, concatenated in call order, is the file
the master sent. -/
theorem upload_receives_file (e : Env) (i : UpId) (conn now : Nat) (secs : List (List (List Nat))) (s0 : Srv)
    (hr : e.hasReady = true) (ha : e.accept = true) :
    delivered (run e s0 (uploadOps i conn now secs)).2 = (secs.map List.flatten).flatten := by
  obtain ⟨s', h, _⟩ := upload_procedure e i conn now secs s0 hr ha
  rw [h]
  simp [uploadOut, delivered, delivered_append, delivered_upSecOut]

/-- C20, upload safety.  For every history whatsoever, from every server state outside an upload (in particular the
fresh server) and the observer starting empty: whenever `finished(SUCCESS)` is reported, the octets delivered
in positively acknowledged sections number exactly what the master announced, and all offsets were right. -/
theorem upload_success_only_if_complete (e : Env) (s0 : Srv) (h0 : NoUp s0.st) (ops : List Op) :
    SafeUp ⟨0, [], [], true⟩ (run e s0 ops).2 :=
  run_safeUp ops s0 _ (GoodU.of_noup h0 rfl)

/-! non-vacuity: a two-section file, segment size 3, one negative acknowledgement for section 1, from an idle
state that still carries the checksum of an abandoned transfer -/
def exEnv : Env := { file := [[1, 2, 3, 4, 250], [9]], fca := 5, fioa := 100, fnof := 2, hasFiles := true, hasReady := false,
                     accept := false, readyErr := 0 }
def exPlan : Plan := [([1, 2, 3, 4, 250], 1), ([9], 0)]
example : PlanFor exEnv exPlan := ⟨rfl, by decide, by decide, by decide⟩
example : (run exEnv { maxSeg := 3, secChk := 77, fileChk := 13 } (downloadOps exEnv 0 0 7 3 exPlan)).2 =
    downloadOut exEnv 0 0 7 3 exPlan := by decide
example : received (downloadOut exEnv 0 0 7 3 exPlan) = [1, 2, 3, 4, 250, 9] := by decide
example : FileOk exEnv := ⟨by decide, by decide⟩
/-- a history with an out-of-sequence CALL SECTION (refused), a truncated request, a request on another
connection and a jump of the clock still ends in a reported success -/
def exOps : List Op :=
  [.asdu 0 0 (mSelect exEnv 7), .asdu 0 10 (mCallFile exEnv 7), .asdu 0 20 (mCallSection exEnv 7 2),
   .asdu 1 25 { tid := 123, cot := 13, neg := false, ca := 5, oa := 7, obj := none },
   .asdu 0 30 (mCallSection exEnv 7 1), .task 1 35, .task 0 40, .task 0 2900, .task 0 5000,
   .asdu 0 5100 (mAck exEnv 7 1 3), .asdu 0 5200 (mCallSection exEnv 7 2), .task 0 5300, .task 0 5400,
   .asdu 0 5500 (mAck exEnv 7 2 3), .asdu 0 5600 (mAck exEnv 7 2 1)]
example : ∀ op ∈ exOps, NoDecline op := by
  intro op h; simp only [exOps, List.mem_cons, List.mem_nil_iff, or_false] at h
  rcases h with h | h | h | h | h | h | h | h | h | h | h | h | h | h | h <;> subst h <;> simp [NoDecline, mSelect, mCallFile, mCallSection, mAck]
example : Out.complete true ∈ (run exEnv { maxSeg := 3 } exOps).2 := by decide
/-- an upload of two sections in three and one segments into a server that was in the middle of a download -/
example : (run { exEnv with hasReady := true, accept := true } { st := .transmit, secChk := 9, fileChk := 200, recvLen := 5 }
      (uploadOps ⟨5, 100, 2, 7⟩ 0 0 [[[1, 2], [3], [4, 250]], [[9]]])).2 =
    uploadOut ⟨5, 100, 2, 7⟩ 0 [[[1, 2], [3], [4, 250]], [[9]]] := by decide

end Iec.Props.C20
