import Iec.Lemmas.Asdu
/-
C01 — ASDU / information-object codec round-trips for every type and layout.

Statement (properties.jsonl): for every supported ASDU type, information objects built
with the public constructors, added to an ASDU, encoded and parsed back yield the same
type, header, object addresses and field values as normalised by the constructor;
re-encoding what was parsed reproduces the identical bytes; for every legal
COT/CA/IOA size combination, any element count that fits, SQ=0 and SQ=1 where the
standard permits that layout.

Model.  Objects are their *stored representation* (the C struct members after the
constructor, in wire order; `Iec.Layout`); every public getter is a function of the
struct only.  The correspondence run checks on each run that every object produced by
each of the 67 public constructors satisfies `WFVals` (`wf=1` in the stream), that
`Asdu.add` / `Asdu.getElement` produce the octets / stored members the C code produces,
for all types x 12 size configurations x SQ.

Theorems.  `Built a e elems` is the invariant "a is what `create` followed by accepted
`add`s of `elems` yields".  `built_create` (below) gives it for a created ASDU and `built_add`
(Lemmas/Asdu) carries it over one accepted addition of a well-formed object; no theorem folds the two
over a list of additions.  The theorems below assume `Built` and read every element back.  The count
limit and the size limit are consequences of acceptance (see C12).  No bound on count, sizes or values.
-/
namespace Iec.Props.C01
open Iec.Layout Iec.Asdu

theorem table_lt : ∀ e ∈ typeTable, e.typeId < 256 := by decide

/-- a variable-length part occurs in single-object types only (in the table: the segment of F_SG_NA_1) -/
theorem table_noSeg : ∀ e ∈ typeTable, e.cat ≠ .single → noSeg e.fields = true := by decide

theorem table_size : typeTable.length = 67 := by decide

/-- header fields written by `CS101_ASDU_create` read back (normalised to their field width) -/
theorem create_header (p : Params) (hp : p.Legal) (sq : Bool) (cot oa ca : Nat) (test neg : Bool) :
    let a := create p sq cot oa ca test neg
    a.isSequence = sq ∧ a.count = 0 ∧ a.typeId = 0 ∧ a.cot = cot % 64 ∧ a.isTest = test ∧ a.isNegative = neg ∧
    a.oa = (if p.sizeOfCOT < 2 then -1 else ((oa % 256 : Nat) : Int)) ∧
    a.ca = (if p.sizeOfCA > 1 then ca % 65536 else ca % 256) ∧ a.bytes.length = p.hdrLen := by
  obtain ⟨h1, h2, _⟩ := hp
  obtain ⟨c1, c2, c3⟩ := cot_octet cot test neg
  simp only [create, Asdu.isSequence, Asdu.count, Asdu.typeId, Asdu.cot, Asdu.isTest, Asdu.isNegative,
    Asdu.oa, Asdu.ca, Asdu.byte, Params.hdrLen, List.cons_append, List.nil_append, List.getD_cons_succ,
    List.getD_cons_zero]
  refine ⟨by cases sq <;> rfl, by cases sq <;> rfl, trivial, c1, c2, c3, ?_⟩
  rcases h1 with h1 | h1 <;> rcases h2 with h2 | h2 <;> simp [h1, h2] <;> omega

theorem built_create (p : Params) (hp : p.Legal) (e : TypeEntry) (sq : Bool) (cot oa ca : Nat) (test neg : Bool) :
    Built (create p sq cot oa ca test neg) e [] := by
  have hl := create_length p hp sq cot oa ca test neg
  have h4 : 4 ≤ p.hdrLen := by obtain ⟨h1, h2, _⟩ := hp; unfold Params.hdrLen; omega
  refine ⟨h4, Nat.le_of_eq hl.symm, create_oct p sq cot oa ca test neg,
    by cases sq <;> simp [create, Asdu.count, Asdu.byte], by simp, ?_, by simp, by simp⟩
  simp only [Asdu.payload, payloadOf, List.map_nil, List.flatten_nil, ite_self]
  exact List.drop_eq_nil_of_le (Nat.le_of_eq hl)

theorem built_lookup {a : Asdu} {e : TypeEntry} {elems : List (Nat × List Nat)} (hb : Built a e elems)
    (he : e ∈ typeTable) (hne : elems ≠ []) : lookup a.typeId = some e := by
  rw [hb.typ hne, Nat.mod_eq_of_lt (table_lt e he), lookup_mem e he]

theorem get_addressed {a : Asdu} {e : TypeEntry} {elems : List (Nat × List Nat)} (hb : Built a e elems)
    (hn : NoSeg e.fields) (hs : a.isSequence = false) (i : Nat) (hi : i < elems.length) :
    decodeObj a.p e a.payload (i * (a.p.sizeOfIOA + fixedSize e.fields)) true = some elems[i] := by
  rw [hb.pay, hs]
  simpa [payloadOf] using get_chunk a.p e true elems hn hb.wf [] i hi

/-- C01 (types with a sequence branch, both layouts): every element of a built ASDU
reads back with its object address and stored values. -/
theorem roundtrip_seq (a : Asdu) (e : TypeEntry) (elems : List (Nat × List Nat)) (hb : Built a e elems)
    (he : e ∈ typeTable) (hc : e.cat = .seq) (i : Nat) (hi : i < elems.length) :
    a.getElement i = some elems[i] := by
  have hn : NoSeg e.fields := table_noSeg e he (by rw [hc]; decide)
  unfold Asdu.getElement
  rw [built_lookup hb he (List.ne_nil_of_length_pos (by omega))]
  simp only [hc]
  cases hs : a.isSequence with
  | false => simpa using get_addressed hb hn hs i hi
  | true =>
    -- the first address stands in front, the values follow without addresses; element `i` has the `i`th next one
    cases elems with
    | nil => simp at hi
    | cons y ys =>
      have h1 := get_chunk a.p e false (y :: ys) hn hb.wf (leBytes a.p.sizeOfIOA y.1) i hi
      have h2 := hb.consec hs i hi
      rw [hb.pay, hs]
      simp only [payloadOf, if_true]
      simp only [leBytes_length, Bool.false_eq_true, if_false, Nat.zero_add] at h1
      simp only [List.headD_cons] at h2
      rw [h1, parseIOA_leBytes _ _ (hb.wf y (by simp)).2, Option.map_some, ← h2]

/-- C01 (command / parameter types 45-64, 110-113: individually addressed only) -/
theorem roundtrip_noseq (a : Asdu) (e : TypeEntry) (elems : List (Nat × List Nat)) (hb : Built a e elems)
    (he : e ∈ typeTable) (hc : e.cat = .noseq) (hs : a.isSequence = false) (i : Nat) (hi : i < elems.length) :
    a.getElement i = some elems[i] := by
  unfold Asdu.getElement
  rw [built_lookup hb he (List.ne_nil_of_length_pos (by omega))]
  simp only [hc]
  exact get_addressed hb (table_noSeg e he (by rw [hc]; decide)) hs i hi

/-- C01 (single-object types 70, 100-107, 120-125, 127): the one object reads back
(whatever index is asked for: the C dispatch ignores the index for these types). -/
theorem roundtrip_single (a : Asdu) (e : TypeEntry) (x : Nat × List Nat) (hb : Built a e [x])
    (he : e ∈ typeTable) (hc : e.cat = .single) (hs : a.isSequence = false) (i : Nat) :
    a.getElement i = some x := by
  unfold Asdu.getElement
  rw [built_lookup hb he (by simp)]
  simp only [hc]
  rw [hb.pay, hs]
  simpa [payloadOf] using decodeObj_chunk a.p e x true (hb.wf x (by simp)).1 (hb.wf x (by simp)).2 [] []

/-- C01, re-encoding: type id, VSQ count and payload octets are determined by the elements, the parameters
and the layout, so an ASDU built again from the same elements has them identical.  The other header octets
are those of `create_header` and are not compared here. -/
theorem reencode (a b : Asdu) (e : TypeEntry) (elems : List (Nat × List Nat)) (ha : Built a e elems)
    (hb : Built b e elems) (hp : a.p = b.p) (hs : a.isSequence = b.isSequence) (hne : elems ≠ []) :
    a.payload = b.payload ∧ a.typeId = b.typeId ∧ a.count = b.count := by
  refine ⟨?_, ?_, ?_⟩
  · rw [ha.pay, hb.pay, hp, hs]
  · rw [ha.typ hne, hb.typ hne]
  · rw [ha.count, hb.count]

/-- non-vacuity: an SQ=1 M_ME_NB_1 ASDU with two elements under the 2/2/3 sizes -/
example :
    let p : Params := ⟨2, 2, 3, 249⟩
    let e := (lookup 11).get!
    let a0 := create p true 3 0 1 false false
    let a1 := (a0.add e 100 [0x1234, 0x10]).1
    let a2 := (a1.add e 101 [0xffff, 0x00]).1
    a2.count = 2 ∧ a2.getElement 1 = some (101, [0xffff, 0x00]) ∧ a2.getElement 2 = none := by
  decide

end Iec.Props.C01
