import Iec.Model.TimeTag
import Iec.Model.Bcr
import Iec.Model.Scaled
import Iec.Lemmas.Bits
import Iec.Lemmas.TimeTag
import Iec.Lemmas.Bcr
import Iec.Lemmas.Days
import Iec.Lemmas.Norm
/-
C19 — Time tags, counters and scaled/normalised values are lossless field records.

Statement (properties.jsonl): converting a millisecond UTC timestamp to a
seven-octet time tag and back is the identity for every instant from 2000-01-01 to
2099-12-31; in every time-tag, binary-counter and packed-status type, setting one
field to any in-range value reads back that value and leaves every other field
unchanged; every 16-bit raw value round-trips exactly through the
normalised/scaled conversions and out-of-range inputs saturate.

Reading of "in-range": ms 0..999, s 0..59, min 0..59, h 0..23, day 1..31 (the
theorems allow 0..31), weekday 0..7, month 1..12 (0..15 allowed), year 0..99,
BCR sequence number 0..31, counter value any int32, event state 0..3.
Reading of "every encodable octet pattern": every octet pattern for which the
requested combination is representable at all.  Milliseconds and seconds share one
16-bit field `ms16 = sec*1000 + ms`; a pattern with ms16 ≥ 65000 (seconds = 65)
cannot represent (65 s, v ms) for v ≥ 536 in *any* implementation
(`no_encoding_of_65s_536ms`), so `setMillisecond_spec` carries exactly that guard
and nothing more.
-/
namespace Iec.Props.C19
open Iec.Bits Iec.Days

section TimeTags
open Iec.TimeTag

/-! C19, second clause, for the setters of cpXXtime2a.c on the seven-octet record (CP24 and CP32Time2a use
its first three and four octets): the value set is read back, every other field and the spare bits stay. -/

theorem setMillisecond_spec (r : Tag) (hr : r.WF) (v : Nat) (hv : v < 1000)
    (hfit : ms16 r / 1000 * 1000 + v < 65536) :
    (setMillisecond r v).WF ∧ (setMillisecond r v).fields = { r.fields with ms := v } ∧
    (setMillisecond r v).spare = r.spare := by
  have h := set16 r hr (ms16 r - ms16 r % 1000 + v) (by omega)
  refine ⟨h.1, h.2.1.trans ?_, h.2.2⟩
  simp only [Tag.fields, getSecond, ms16, Fields.mk.injEq, and_true]
  omega

/-- The guard of `setMillisecond_spec` excludes nothing an implementation could
provide: no 16-bit field value shows 65 s together with v ≥ 536 ms. -/
theorem no_encoding_of_65s_536ms (x v : Nat) (hx : x < 65536) (hv : 536 ≤ v) :
    ¬ (x / 1000 = 65 ∧ x % 1000 = v) := by omega

theorem setMillisecond_guard_of_sec (r : Tag) (v : Nat) (hv : v < 1000)
    (hs : getSecond r ≤ 64 ∨ v ≤ 535) (hr : r.WF) :
    ms16 r / 1000 * 1000 + v < 65536 := by
  simp only [getSecond, ms16, Tag.WF] at *; omega

/-- `CP32Time2a_setMillisecond` (written differently in the C source) obeys the same law -/
theorem setMillisecond32_spec (r : Tag) (hr : r.WF) (v : Nat) (hv : v < 1000)
    (hfit : ms16 r / 1000 * 1000 + v < 65536) :
    (setMillisecond32 r v).WF ∧ (setMillisecond32 r v).fields = { r.fields with ms := v } ∧
    (setMillisecond32 r v).spare = r.spare := by
  have h := set16 r hr (getSecond r * 1000 + v) hfit
  refine ⟨h.1, h.2.1.trans ?_, h.2.2⟩
  simp only [Tag.fields, getSecond, Fields.mk.injEq, and_true]
  omega

theorem setSecond_spec (r : Tag) (hr : r.WF) (v : Nat) (hv : v < 60) :
    (setSecond r v).WF ∧ (setSecond r v).fields = { r.fields with sec := v } ∧
    (setSecond r v).spare = r.spare := by
  have h := set16 r hr (v * 1000 + ms16 r % 1000) (by omega)
  refine ⟨h.1, h.2.1.trans ?_, h.2.2⟩
  simp only [Tag.fields, getMillisecond, ms16, Fields.mk.injEq, and_true]
  omega

theorem setMinute_spec (r : Tag) (hr : r.WF) (v : Nat) (hv : v < 60) :
    (setMinute r v).WF ∧ (setMinute r v).fields = { r.fields with min := v } ∧
    (setMinute r v).spare = r.spare := by
  obtain ⟨r0, r1, r2, r3, r4, r5, r6⟩ := r
  simp only [Tag.WF] at hr
  tag_setter
  exact and_low 6 (show v < 2 ^ 6 by omega)

theorem setInvalid_spec (r : Tag) (hr : r.WF) (v : Bool) :
    (setInvalid r v).WF ∧ (setInvalid r v).fields = { r.fields with iv := v } ∧
    (setInvalid r v).spare = r.spare := by
  obtain ⟨r0, r1, r2, r3, r4, r5, r6⟩ := r
  simp only [Tag.WF] at hr
  cases v <;> tag_setter

theorem setSubstituted_spec (r : Tag) (hr : r.WF) (v : Bool) :
    (setSubstituted r v).WF ∧ (setSubstituted r v).fields = { r.fields with sb := v } ∧
    (setSubstituted r v).spare = r.spare := by
  obtain ⟨r0, r1, r2, r3, r4, r5, r6⟩ := r
  simp only [Tag.WF] at hr
  cases v <;> tag_setter

theorem setHour_spec (r : Tag) (hr : r.WF) (v : Nat) (hv : v < 24) :
    (setHour r v).WF ∧ (setHour r v).fields = { r.fields with hour := v } ∧
    (setHour r v).spare = r.spare := by
  obtain ⟨r0, r1, r2, r3, r4, r5, r6⟩ := r
  simp only [Tag.WF] at hr
  tag_setter
  exact and_low 5 (show v < 2 ^ 5 by omega)

theorem setSummerTime_spec (r : Tag) (hr : r.WF) (v : Bool) :
    (setSummerTime r v).WF ∧ (setSummerTime r v).fields = { r.fields with su := v } ∧
    (setSummerTime r v).spare = r.spare := by
  obtain ⟨r0, r1, r2, r3, r4, r5, r6⟩ := r
  simp only [Tag.WF] at hr
  cases v <;> tag_setter

theorem setDayOfWeek_spec (r : Tag) (hr : r.WF) (v : Nat) (hv : v < 8) :
    (setDayOfWeek r v).WF ∧ (setDayOfWeek r v).fields = { r.fields with dow := v } ∧
    (setDayOfWeek r v).spare = r.spare := by
  obtain ⟨r0, r1, r2, r3, r4, r5, r6⟩ := r
  simp only [Tag.WF] at hr
  tag_setter
  simp (disch := omega) only [and_7, shl5, and_31, Nat.mul_mod_left, Nat.or_zero, and_true]
  omega

theorem setDayOfMonth_spec (r : Tag) (hr : r.WF) (v : Nat) (hv : v < 32) :
    (setDayOfMonth r v).WF ∧ (setDayOfMonth r v).fields = { r.fields with dom := v } ∧
    (setDayOfMonth r v).spare = r.spare := by
  obtain ⟨r0, r1, r2, r3, r4, r5, r6⟩ := r
  simp only [Tag.WF] at hr
  simp only [setDayOfMonth, and_add_and 5 _ _ (m := 224) (n := 31) rfl (by decide)]
  tag_setter
  exact and_low 5 hv

theorem setMonth_spec (r : Tag) (hr : r.WF) (v : Nat) (hv : v < 16) :
    (setMonth r v).WF ∧ (setMonth r v).fields = { r.fields with month := v } ∧
    (setMonth r v).spare = r.spare := by
  obtain ⟨r0, r1, r2, r3, r4, r5, r6⟩ := r
  simp only [Tag.WF] at hr
  simp only [setMonth, and_add_and 4 _ _ (m := 240) (n := 15) rfl (by decide)]
  tag_setter
  exact ⟨and_low 4 hv, and_low 4 (shr_lt 4 4 hr.2.2.2.2.2.1)⟩

/-- `setYear` reduces its argument modulo 100 first (the caller passes `tm_year`) -/
theorem setYear_any (r : Tag) (hr : r.WF) (v : Nat) :
    (setYear r v).WF ∧ (setYear r v).fields = { r.fields with year := v % 100 } ∧
    (setYear r v).spare = r.spare := by
  obtain ⟨r0, r1, r2, r3, r4, r5, r6⟩ := r
  simp only [Tag.WF] at hr
  simp only [setYear, and_add_and 7 _ _ (m := 128) (n := 127) rfl (by decide)]
  tag_setter
  exact ⟨and_low 7 (show v % 100 < 2 ^ 7 by omega), and_low 1 (shr_lt 7 1 hr.2.2.2.2.2.2)⟩

theorem setYear_spec (r : Tag) (hr : r.WF) (v : Nat) (hv : v < 100) :
    (setYear r v).WF ∧ (setYear r v).fields = { r.fields with year := v } ∧
    (setYear r v).spare = r.spare := by
  have h := setYear_any r hr v
  rw [Nat.mod_eq_of_lt hv] at h
  exact h

/-- non-vacuity: an all-ones record is well formed and satisfies the millisecond guard
for v ≤ 535 (its 16-bit field is 65535: 65 s 535 ms) -/
example : (⟨255, 255, 255, 255, 255, 255, 255⟩ : Tag).WF ∧
    ms16 ⟨255, 255, 255, 255, 255, 255, 255⟩ / 1000 * 1000 + 535 < 65536 := by decide

/-- CP16Time2a: elapsed time 0..65535 -/
theorem setElapsed_spec (r : Tag) (v : Nat) (hv : v < 65536) :
    getElapsed (setElapsed r v) = v ∧ (setElapsed r v).b0 < 256 ∧ (setElapsed r v).b1 < 256 := by
  simp only [getElapsed, setElapsed, u8]; omega

/-- the chain of setters `CP56Time2a_setFromMsTimestamp` performs on a zeroed record -/
def build (tm : Tm) (ms : Nat) : Tag :=
  setYear (setMonth (setDayOfWeek (setDayOfMonth (setHour (setMinute (setSecond
    (setMillisecond Tag.zero ms) tm.sec) tm.min) tm.hour) tm.mday) 0) (tm.mon + 1)) tm.year

theorem fromMs_eq_build (t : Nat) : cp56FromMs t = build (gmtime (t / 1000)) (t % 1000) := rfl

theorem zero_wf : Tag.zero.WF := by decide
theorem zero_fields : Tag.zero.fields = ⟨0, 0, 0, false, false, 0, false, 0, 0, 0, 0⟩ := by decide

theorem build_fields (tm : Tm) (ms : Nat) (hms : ms < 1000) (hs : tm.sec < 60) (hmi : tm.min < 60)
    (hh : tm.hour < 24) (hd : tm.mday < 32) (hmo : tm.mon + 1 < 16) :
    (build tm ms).WF ∧ (build tm ms).fields =
      ⟨ms, tm.sec, tm.min, false, false, tm.hour, false, 0, tm.mday, tm.mon + 1, tm.year % 100⟩ := by
  have s1 := setMillisecond_spec Tag.zero zero_wf ms hms (by simp [ms16, Tag.zero]; omega)
  have s2 := setSecond_spec _ s1.1 tm.sec hs
  have s3 := setMinute_spec _ s2.1 tm.min hmi
  have s4 := setHour_spec _ s3.1 tm.hour hh
  have s5 := setDayOfMonth_spec _ s4.1 tm.mday hd
  have s6 := setDayOfWeek_spec _ s5.1 0 (by omega)
  have s7 := setMonth_spec _ s6.1 (tm.mon + 1) hmo
  have s8 := setYear_any _ s7.1 tm.year
  unfold build
  refine ⟨s8.1, ?_⟩
  rw [s8.2.1, s7.2.1, s6.2.1, s5.2.1, s4.2.1, s3.2.1, s2.2.1, s1.2.1, zero_fields]

/-- `CP56Time2a_toMsTimestamp` reads the record only through the getters -/
def toMsF (f : Fields) : Int :=
  ((((mkDays ((f.year : Int) + 100) ((f.month : Int) - 1) (f.dom : Int)) * 24 + (f.hour : Int)) * 60
      + (f.min : Int)) * 60 + (f.sec : Int)) * 1000 + (f.ms : Int)

theorem toMsInt_fields (r : Tag) : cp56ToMsInt r = toMsF r.fields := rfl

theorem fromMs_fields (t : Nat) (h1 : 946684800000 ≤ t) (h2 : t < 4102444800000) :
    (cp56FromMs t).WF ∧ (cp56FromMs t).fields =
      ⟨t % 1000, t / 1000 % 86400 % 60, t / 1000 % 86400 / 60 % 60, false, false, t / 1000 % 86400 / 3600,
        false, 0, (civilFromDays (t / 1000 / 86400)).2.2, (civilFromDays (t / 1000 / 86400)).2.1 - 1 + 1,
        ((civilFromDays (t / 1000 / 86400)).1 - 1900) % 100⟩ := by
  obtain ⟨_, _, _, c4, _, c6, _⟩ := civil_spec (t / 1000 / 86400) (by omega) (by omega)
  have hg : gmtime (t / 1000) = ⟨t / 1000 % 86400 % 60, t / 1000 % 86400 / 60 % 60, t / 1000 % 86400 / 3600,
      (civilFromDays (t / 1000 / 86400)).2.2, (civilFromDays (t / 1000 / 86400)).2.1 - 1,
      (civilFromDays (t / 1000 / 86400)).1 - 1900⟩ := rfl
  rw [fromMs_eq_build, hg]
  exact build_fields _ _ (by omega) (by simp only; omega) (by simp only; omega) (by simp only; omega)
    (by simp only; omega) (by simp only; omega)

theorem ms_roundtrip_int (t : Nat) (h1 : 946684800000 ≤ t) (h2 : t < 4102444800000) :
    cp56ToMsInt (cp56FromMs t) = (t : Int) := by
  obtain ⟨c1, c2, c3, c4, _, _, c7⟩ := civil_spec (t / 1000 / 86400) (by omega) (by omega)
  rw [toMsInt_fields, (fromMs_fields t h1 h2).2]
  simp only [toMsF]
  have e1 : ((((civilFromDays (t / 1000 / 86400)).1 - 1900) % 100 : Nat) : Int) + 100 =
      (((civilFromDays (t / 1000 / 86400)).1 - 1900 : Nat) : Int) := by omega
  have e2 : (((civilFromDays (t / 1000 / 86400)).2.1 - 1 + 1 : Nat) : Int) - 1 =
      (((civilFromDays (t / 1000 / 86400)).2.1 - 1 : Nat) : Int) := by omega
  rw [e1, e2, c7]
  omega

/-- C19, first sentence: `CP56Time2a_toMsTimestamp (CP56Time2a_createFromMsTimestamp t) = t`
for every millisecond from 2000-01-01T00:00:00.000Z (946 684 800 000) up to and
including 2099-12-31T23:59:59.999Z — every one of the 3 155 760 000 000 instants,
not a sample: the date of each of the 36 525 days comes from `Iec.Days.civil_spec`, which is
proved by arithmetic, and the time of day is linear arithmetic. The `uint64_t` conversion is included. -/
theorem ms_roundtrip (t : Nat) (h1 : 946684800000 ≤ t) (h2 : t < 4102444800000) :
    cp56ToMs (cp56FromMs t) = t := by
  unfold cp56ToMs
  rw [ms_roundtrip_int t h1 h2]
  have : (t : Int) % (2 ^ 64 : Int) = (t : Int) := by
    apply Int.emod_eq_of_lt <;> omega
  rw [this]; exact Int.toNat_natCast t

theorem fromMs_wf (t : Nat) (h1 : 946684800000 ≤ t) (h2 : t < 4102444800000) :
    (cp56FromMs t).WF ∧ getDayOfWeek (cp56FromMs t) = 0 ∧ isInvalid (cp56FromMs t) = false ∧
    isSummerTime (cp56FromMs t) = false ∧ isSubstituted (cp56FromMs t) = false := by
  obtain ⟨hw, hf⟩ := fromMs_fields t h1 h2
  simp only [Tag.fields, Fields.mk.injEq] at hf
  exact ⟨hw, hf.2.2.2.2.2.2.2.1, hf.2.2.2.1, hf.2.2.2.2.2.2.1, hf.2.2.2.2.1⟩

/-- non-vacuity and a spot value: 2024-02-29T12:34:56.789Z -/
example : cp56FromMs 1709210096789 = ⟨0xd5, 0xdd, 34, 12, 29, 2, 24⟩ ∧
    cp56ToMs ⟨0xd5, 0xdd, 34, 12, 29, 2, 24⟩ = 1709210096789 := by decide

end TimeTags

/-! C19, second clause, for BinaryCounterReading (cs101_bcr.c), SingleEvent and
StatusAndStatusChangeDetection (cs101_information_objects.c); last sentence for get/setScaledValue. -/
section Records
open Iec.Bcr Iec.Scaled

theorem i32_roundtrip (v : Int) (h1 : -2147483648 ≤ v) (h2 : v ≤ 2147483647) :
    i32OfBytes (i32Bytes v).1 (i32Bytes v).2.1 (i32Bytes v).2.2.1 (i32Bytes v).2.2.2 = v ∧
    (i32Bytes v).1 < 256 ∧ (i32Bytes v).2.1 < 256 ∧ (i32Bytes v).2.2.1 < 256 ∧ (i32Bytes v).2.2.2 < 256 := by
  simp only [i32Bytes]
  generalize hu : (v % 4294967296).toNat = u
  have hu' : (u : Int) = v % 4294967296 := by omega
  have hul : u < 4294967296 := by omega
  refine ⟨?_, by omega, by omega, by omega, by omega⟩
  have e : u % 256 + u / 256 % 256 * 256 + u / 65536 % 256 * 65536 + u / 16777216 % 256 * 16777216 = u := by omega
  simp only [i32OfBytes, e]
  split <;> omega

theorem bcr_setValue (r : Bcr) (v : Int) (h1 : -2147483648 ≤ v) (h2 : v ≤ 2147483647) :
    getValue (setValue r v) = v ∧ (setValue r v).b4 = r.b4 ∧
    (setValue r v).b0 < 256 ∧ (setValue r v).b1 < 256 ∧ (setValue r v).b2 < 256 ∧ (setValue r v).b3 < 256 := by
  have h := i32_roundtrip v h1 h2
  simp only [getValue, setValue]
  exact ⟨h.1, trivial, h.2⟩

theorem bcr_setSeq (r : Bcr) (hr : r.WF) (v : Nat) (hv : v < 32) :
    getSequenceNumber (setSequenceNumber r v) = v ∧
    hasCarry (setSequenceNumber r v) = hasCarry r ∧ isAdjusted (setSequenceNumber r v) = isAdjusted r ∧
    isInvalid (setSequenceNumber r v) = isInvalid r ∧ getValue (setSequenceNumber r v) = getValue r ∧
    (setSequenceNumber r v).WF := by
  obtain ⟨r0, r1, r2, r3, r4⟩ := r
  simp only [Bcr.WF] at hr
  mask_simp [getSequenceNumber, setSequenceNumber, hasCarry, isAdjusted, isInvalid, getValue, Bcr.WF,
    Iec.Bcr.u8]
  exact and_low 5 hv

theorem bcr_flag (r : Bcr) (hr : r.WF) (v : Bool) :
    (hasCarry (setCarry r v) = v ∧ isAdjusted (setCarry r v) = isAdjusted r ∧
      isInvalid (setCarry r v) = isInvalid r ∧ getSequenceNumber (setCarry r v) = getSequenceNumber r ∧
      getValue (setCarry r v) = getValue r ∧ (setCarry r v).WF) := by
  obtain ⟨r0, r1, r2, r3, r4⟩ := r
  simp only [Bcr.WF] at hr
  cases v <;>
    mask_simp [getSequenceNumber, setCarry, hasCarry, isAdjusted, isInvalid, getValue, Bcr.WF, Iec.Bcr.u8]

theorem se_state (b : Nat) (hb : b < 256) (es : Nat) (he : es < 4) :
    seGetEventState (seSetEventState b es) = es ∧ seGetQDP (seSetEventState b es) = seGetQDP b ∧
    seSetEventState b es < 256 := by
  simp (disch := omega) only [seGetEventState, seSetEventState, seGetQDP, Iec.Bcr.u8, and_3, and_fc]
  omega

theorem se_qdp (b : Nat) (hb : b < 256) (q : Nat) (hq : q < 256) (hq4 : q % 4 = 0) :
    seGetQDP (seSetQDP b q) = q ∧ seGetEventState (seSetQDP b q) = seGetEventState b ∧
    seSetQDP b q < 256 := by
  simp (disch := omega) only [seGetEventState, seSetQDP, seGetQDP, Iec.Bcr.u8, and_3, and_fc]
  omega

theorem scd_set (r : Scd) (v : Nat) (hv : v < 65536) :
    scdGetSTn (scdSetSTn r v) = v ∧ scdGetCDn (scdSetSTn r v) = scdGetCDn r := by
  obtain ⟨r0, r1, r2, r3⟩ := r
  simp only [scdGetSTn, scdSetSTn, scdGetCDn, Iec.Bcr.u8, and_true]; omega

theorem scaled_rt (x : Int) (h1 : -32768 ≤ x) (h2 : x ≤ 32767) :
    getScaled (setScaled x).1 (setScaled x).2 = x ∧ (setScaled x).1 < 256 ∧ (setScaled x).2 < 256 := by
  rw [setScaled_eq x h1 h2]
  generalize hu : (x % 65536).toNat = u
  simp only [getScaled]
  refine ⟨?_, by omega, by omega⟩
  split <;> omega

theorem scaled_rt' (b0 b1 : Nat) (h0 : b0 < 256) (h1 : b1 < 256) :
    setScaled (getScaled b0 b1) = (b0, b1) ∧ -32768 ≤ getScaled b0 b1 ∧ getScaled b0 b1 ≤ 32767 := by
  have hr : -32768 ≤ getScaled b0 b1 ∧ getScaled b0 b1 ≤ 32767 := by
    simp only [getScaled]; split <;> omega
  refine ⟨?_, hr⟩
  rw [setScaled_eq _ hr.1 hr.2]
  simp only [getScaled, Prod.mk.injEq]
  split <;> omega

theorem sat_hi (n : Nat) (h : n > maxN) : toScaledFin false n = 32767 := by
  have e : toScaledFin false n = toScaledFin false maxN := by
    simp only [toScaledFin, Bool.not_false, Bool.true_and, h, decide_true, if_true, Bool.false_and]
    simp
  rw [e]; decide +kernel
theorem sat_lo (n : Nat) (h : n > oneN) : toScaledFin true n = -32768 := by
  have e : toScaledFin true n = toScaledFin true oneN := by
    simp only [toScaledFin, Bool.not_true, Bool.false_and, Bool.true_and, h, decide_true, if_true]
    simp
  rw [e]; decide +kernel

theorem bcr_adjusted (r : Bcr) (hr : r.WF) (v : Bool) :
    (isAdjusted (setAdjusted r v) = v ∧ hasCarry (setAdjusted r v) = hasCarry r ∧
      isInvalid (setAdjusted r v) = isInvalid r ∧
      getSequenceNumber (setAdjusted r v) = getSequenceNumber r ∧
      getValue (setAdjusted r v) = getValue r ∧ (setAdjusted r v).WF) := by
  obtain ⟨r0, r1, r2, r3, r4⟩ := r
  simp only [Bcr.WF] at hr
  cases v <;>
    mask_simp [getSequenceNumber, setAdjusted, hasCarry, isAdjusted, isInvalid, getValue, Bcr.WF, Iec.Bcr.u8]

theorem bcr_invalid (r : Bcr) (hr : r.WF) (v : Bool) :
    (isInvalid (Iec.Bcr.setInvalid r v) = v ∧ hasCarry (Iec.Bcr.setInvalid r v) = hasCarry r ∧
      isAdjusted (Iec.Bcr.setInvalid r v) = isAdjusted r ∧
      getSequenceNumber (Iec.Bcr.setInvalid r v) = getSequenceNumber r ∧
      getValue (Iec.Bcr.setInvalid r v) = getValue r ∧ (Iec.Bcr.setInvalid r v).WF) := by
  obtain ⟨r0, r1, r2, r3, r4⟩ := r
  simp only [Bcr.WF] at hr
  cases v <;>
    mask_simp [getSequenceNumber, Iec.Bcr.setInvalid, hasCarry, isAdjusted, Iec.Bcr.isInvalid, getValue,
      Bcr.WF, Iec.Bcr.u8]

/-- C19, last sentence (a): every 16-bit raw value round-trips exactly through
`NormalizedValue_fromScaled` / `NormalizedValue_toScaled` (dyadic binary32 model) -/
theorem normalized_roundtrip (x : Int) (h1 : -32768 ≤ x) (h2 : x ≤ 32767) :
    toScaled (fromScaledBits x) = some x := Iec.Norm.norm_roundtrip x h1 h2

/-- C19, last sentence (b): out-of-range inputs saturate at the ends of the range,
including ±infinity -/
theorem saturates :
    (∀ n, n > maxN → toScaledFin false n = 32767) ∧ (∀ n, n > oneN → toScaledFin true n = -32768) ∧
    toScaled 0x7f800000 = some 32767 ∧ toScaled 0xff800000 = some (-32768) ∧
    (∀ x : Int, x > 32767 → fromScaledBits x = fromScaledBits 32767) ∧
    (∀ x : Int, x < -32768 → fromScaledBits x = fromScaledBits (-32768)) := by
  refine ⟨sat_hi, sat_lo, by decide +kernel, by decide +kernel, ?_, ?_⟩
  · intro x hx
    have h2 : ¬ ((32767 : Int) > 32767) := by omega
    simp only [fromScaledBits, hx, if_true, h2, if_false]
    rfl
  · intro x hx
    have h1 : ¬ (x > 32767) := by omega
    have h2 : ¬ ((-32768 : Int) > 32767) := by omega
    have h3 : ¬ ((-32768 : Int) < -32768) := by omega
    simp only [fromScaledBits, h1, hx, if_true, h2, h3, if_false]

end Records

end Iec.Props.C19
