import Iec.Lemmas.Srv104
import Iec.Model.Cli104
import Iec.Lemmas.Srv104Unconf
import Iec.Lemmas.Cli104Unconf
import Iec.Lemmas.Srv104Deadlines
import Iec.Lemmas.Cli104Deadlines
/-
C11 — CS104 acknowledgement duty (w, t2) and supervision timers (t1, t3).

Statement (properties.jsonl): a station acknowledges received I-format APDUs no later than
after w of them or t2 seconds after the first unacknowledged one, and before closing /
stopping on its own initiative; it closes the connection when an I-format APDU or TESTFR
act it sent stays unacknowledged for t1 seconds, and not before; after t3 seconds without
receiving anything it sends TESTFR act; the configured k, w, t1, t2, t3 are the ones used.

Theorems on the server model, per processing step and on a virtual clock (`s.now`, ms):
`ack_after_w`/`ack_at_w` (w), `t2_ack`/`t2_not_before` (t2), `t1_close_iff` (t1: exactly when,
and not before) with `t1_empty`, `t3_testfr` (t3).  All timer values are read from the
configuration record `s.p` (the correspondence run varies k, w, t1, t2, t3).  Lateness is
bounded by the tick period: the code looks at the clock only in `handleTimeouts`.
Client role (`section Client`): the same duties on the client model, which the cli104 differential ties to
cs104_connection.c: `client_ack_after_w`/`client_ack_at_w`, `client_t2_ack`/`client_t2_not_before`, `client_close_iff`
(t1 for I-frames and TESTFR/STARTDT/STOPDT act: exactly when), `client_t3_testfr`, `client_ack_before_stopdt`,
`client_ack_before_close`.
Over every history: `fewer_than_w_unacknowledged` (server, `Lemmas/Srv104Unconf.lean`) and
`client_fewer_than_w_unacknowledged` (`Lemmas/Cli104Unconf.lean`); after every tick: `deadlines_met_after_every_tick`
(`Lemmas/Srv104Deadlines.lean`); after every pass of the client's loop: `client_deadlines_met_every_pass`
(`Lemmas/Cli104Deadlines.lean`).
-/
namespace Iec.Props.C11
open Iec.Srv104 Iec.KWindow

theorem sendS_conn (s : Slave) (i : Nat) (hi : i < s.conns.length) :
    ((sendS s i).conn i).unconf = (s.conn i).unconf ∧ (sendS s i).conns.length = s.conns.length :=
  ⟨by rcases sendS_conn_cases s i hi with e | e <;> rw [e], (steps_sendS (K := .quiet) (i := i) s).env.2.2⟩

/-- w: after the `w` test that follows every received message fewer than w I-frames are
unacknowledged (the configured w is the one used: `s.p.w`) -/
theorem ack_after_w (s : Slave) (i : Nat) (hi : i < s.conns.length) (hw : 0 < s.p.w) :
    ((ackIfW s i).conn i).unconf < s.p.w := ackIfW_bound s i hw

/-- the S-frame of the `w` test is written whenever w I-frames are unacknowledged -/
theorem ack_at_w (s : Slave) (i : Nat) (hi : i < s.conns.length) (h : s.p.w ≤ (s.conn i).unconf)
    (h1 : (s.conn i).sock.writeFail = false) (h2 : (s.conn i).sock.peerClosed = false) :
    (ackIfW s i).log = s.log ++ [.tx i [0x68, 0x04, 0x01, 0, seqLo (s.conn i).vr, seqHi (s.conn i).vr]] := by
  unfold ackIfW
  simp only
  rw [if_pos h, sendS_setConn_ok s i hi { s.conn i with lastConf := some s.now, unconf := 0, t2Triggered := false } h1 h2]
  rfl

/-- t2: at a tick with unacknowledged I-frames whose first one is t2 seconds old, an
S-frame carrying V(R) is written in that tick -/
theorem t2_ack (s : Slave) (i : Nat) (hi : i < s.conns.length) (l : Nat) (hu : 0 < (s.conn i).unconf)
    (hl : (s.conn i).lastConf = some l) (hlt : l < s.now) (hage : s.p.t2 * 1000 ≤ s.now - l)
    (h1 : (s.conn i).sock.writeFail = false) (h2 : (s.conn i).sock.peerClosed = false) :
    (phaseT2 s i).log = s.log ++ [.tx i [0x68, 0x04, 0x01, 0, seqLo (s.conn i).vr, seqHi (s.conn i).vr]] ∧
    ((phaseT2 s i).conn i).unconf = 0 := by
  have hi1 : i < (s.setConn i (s.conn i)).conns.length := (setConn_len s i _).symm ▸ hi
  unfold phaseT2
  simp only [hl, if_pos hu, if_neg (Nat.not_lt.mpr (Nat.le_of_lt hlt))]
  rw [if_pos (by simp only [Bool.and_eq_true, decide_eq_true_eq]; exact ⟨hlt, hage⟩),
    sendS_setConn_ok _ i hi1 { s.conn i with lastConf := some s.now, unconf := 0, t2Triggered := false } h1 h2]
  exact ⟨rfl, congrArg Conn.unconf (conn_setConn _ i _ hi1)⟩

/-- … and not before: while the first unacknowledged I-frame is younger than t2 nothing is written -/
theorem t2_not_before (s : Slave) (i : Nat) (l : Nat) (hl : (s.conn i).lastConf = some l) (hlt : l ≤ s.now)
    (hage : s.now - l < s.p.t2 * 1000) : (phaseT2 s i).log = s.log := by
  unfold phaseT2
  simp only
  by_cases hu : (s.conn i).unconf > 0
  · have hng : ¬ (l > s.now) := by omega
    rw [if_pos hu]
    simp only [hl, hng, if_false, setConn_p]
    have hc : ¬ ((decide (s.now > l) && decide (s.now - l ≥ s.p.t2 * 1000)) = true) := by simp; omega
    rw [if_neg hc]
    rfl
  · rw [if_neg hu]

/-- t1: the connection is closed by the I-frame timeout exactly when the oldest
unacknowledged I-frame is t1 seconds old - and not before -/
theorem t1_close_iff (s : Slave) (i : Nat) (e : KEntry) (rest : List KEntry) (hw : (s.conn i).win = e :: rest)
    (hst : e.sentTime ≤ s.now) :
    (phaseT1 s i true).2 = false ↔ (e.sentTime < s.now ∧ s.p.t1 * 1000 ≤ s.now - e.sentTime) := by
  unfold phaseT1
  simp only [hw, if_neg (Nat.not_lt.mpr hst), setConn_p]
  by_cases hc : e.sentTime < s.now ∧ s.p.t1 * 1000 ≤ s.now - e.sentTime
  · rw [if_pos (by simpa using hc)]; exact ⟨fun _ => hc, fun _ => rfl⟩
  · rw [if_neg (by simpa using hc)]; exact ⟨fun h => Bool.noConfusion h, fun h => absurd h hc⟩

/-- with nothing unacknowledged the I-frame timer never closes the connection -/
theorem t1_empty (s : Slave) (i : Nat) (hw : (s.conn i).win = []) (ok : Bool) : phaseT1 s i ok = (s, ok) := by
  unfold phaseT1; simp [hw]

/-- t3: a tick later than t3 seconds after the last reception writes TESTFR act -/
theorem t3_testfr (s : Slave) (i : Nat) (hi : i < s.conns.length) (hnw : (s.conn i).waitingTestFR = false)
    (hplaus : (s.conn i).nextT3 ≤ s.now + s.p.t3 * 1000) (hexp : (s.conn i).nextT3 < s.now)
    (h1 : (s.conn i).sock.writeFail = false) (h2 : (s.conn i).sock.peerClosed = false) :
    (phaseT3 s i).log = s.log ++ [.tx i TESTFR_ACT] ∧ ((phaseT3 s i).conn i).waitingTestFR = true ∧
    ((phaseT3 s i).conn i).nextTestFR = s.now + s.p.t1 * 1000 := by
  have hi1 : i < (emit (s.setConn i (s.conn i)) (.tx i TESTFR_ACT)).conns.length := (setConn_len s i _).symm ▸ hi
  unfold phaseT3
  simp only [hnw, Bool.false_eq_true, if_false, if_neg (Nat.not_lt.mpr hplaus), decide_eq_true hexp, if_true]
  rw [write_setConn_ok s i hi _ h1 h2]
  exact ⟨rfl, congrArg Conn.waitingTestFR (conn_setConn _ i _ hi1), congrArg Conn.nextTestFR (conn_setConn _ i _ hi1)⟩

end Iec.Props.C11

namespace Iec.Props.C11
section Client
open Iec.Cli104 Iec.KWindow
open Iec.Srv104 (seqLo seqHi TESTFR_ACT)

/-- `Iec.Cli104.Writable`, written out where the property's theorems are read -/
def CliWritable (c : Cli) : Prop :=
  (c.phase = 2 ∨ c.phase = 3) ∧ c.sock.writeFail = false ∧ c.sock.peerClosed = false

theorem cli_write_ok (c : Cli) (b : List Nat) (h : CliWritable c) : Iec.Cli104.write c b = Iec.Cli104.emit c (.tx b) :=
  write_writable c h b

/-- what `confirmOutstandingMessages` does on a writable socket: one S-frame carrying V(R), nothing left unacknowledged -/
theorem client_confirm_spec (c : Cli) (h : CliWritable c) :
    (confirmOutstanding c).log = c.log ++ [.tx [0x68, 4, 1, 0, seqLo c.vr, seqHi c.vr]] ∧
    (confirmOutstanding c).unconf = 0 ∧ (confirmOutstanding c).t2Trigger = false := by
  rw [confirm_writable c h]
  exact ⟨rfl, rfl, rfl⟩

/-- w (client): after the `w` test that follows every received message fewer than w I-frames are unacknowledged -/
theorem client_ack_after_w (c : Cli) (hw : 0 < c.p.w) : (ackIfW c).unconf < (ackIfW c).p.w := by
  obtain ⟨hp, hb⟩ := ackIfW_boundC c hw
  rw [hp]; exact hb

/-- … and the S-frame is written whenever w I-frames are unacknowledged -/
theorem client_ack_at_w (c : Cli) (h : c.p.w ≤ c.unconf) (hs : CliWritable c) :
    (ackIfW c).log = c.log ++ [.tx [0x68, 4, 1, 0, seqLo c.vr, seqHi c.vr]] := by
  unfold ackIfW
  rw [if_pos (by rw [Bool.or_eq_true, decide_eq_true_eq]; exact Or.inl h)]
  exact (client_confirm_spec c hs).1

/-- before STOPDT act the client acknowledges: `sendStopDT` writes the S-frame with V(R), then STOPDT act -/
theorem client_ack_before_stopdt (c : Cli) (hs : CliWritable c) :
    (sendStopDT c).log = c.log ++ [.tx [0x68, 4, 1, 0, seqLo c.vr, seqHi c.vr], .tx STOPDT_ACT] ∧
    (sendStopDT c).unconf = 0 := by
  obtain ⟨h1, h2, _⟩ := client_confirm_spec c hs
  -- acknowledging leaves the socket writable
  have hs' : Writable { confirmOutstanding c with conState := 4 } := by rw [confirm_eq]; exact hs
  unfold sendStopDT
  dsimp only
  rw [write_writable _ hs']
  exact ⟨by show (confirmOutstanding c).log ++ _ = _; rw [h1, List.append_assoc]; rfl, h2⟩

/-- before the client closes on its own initiative it acknowledges: the thread epilogue writes the S-frame
when anything is unacknowledged, and only then reports the closure -/
theorem client_ack_before_close (c : Cli) (ev : String) (hu : 0 < c.unconf) (hs : CliWritable c) :
    (finish c ev).log = c.log ++ [.tx [0x68, 4, 1, 0, seqLo c.vr, seqHi c.vr], .ev ev] := by
  show (if c.unconf > 0 then confirmOutstanding c else c).log ++ [.ev ev] = _
  rw [if_pos hu, (client_confirm_spec c hs).1, List.append_assoc]
  rfl

/-- t2 (client): at a pass of the loop with unacknowledged I-frames whose first one is t2 seconds old (and no
TESTFR due), exactly one S-frame carrying V(R) is written -/
theorem client_t2_ack (c : Cli) (l : Nat) (hs : CliWritable c) (h3 : c.now ≤ c.nextT3) (hu : 0 < c.unconf)
    (hl : c.lastConf = some l) (hlt : l < c.now) (hage : c.p.t2 * 1000 ≤ c.now - l) :
    (Iec.Cli104.handleTimeouts c).1.log = c.log ++ [.tx [0x68, 4, 1, 0, seqLo c.vr, seqHi c.vr]] ∧
    (Iec.Cli104.handleTimeouts c).1.unconf = 0 := by
  rw [handleTimeouts_idle c h3, phaseT1_fst]
  rcases phaseT2_cases c with ⟨_, hn⟩ | ⟨e, _⟩
  · exact absurd ⟨hlt, hage⟩ (hn hu l hl)
  · rw [e]; exact ⟨(client_confirm_spec c hs).1, (client_confirm_spec c hs).2.1⟩

/-- … and not before: nothing is written while the first unacknowledged I-frame is younger than t2 -/
theorem client_t2_not_before (c : Cli) (l : Nat) (h3 : c.now ≤ c.nextT3) (hl : c.lastConf = some l)
    (hlt : l ≤ c.now) (hage : c.now - l < c.p.t2 * 1000) : (Iec.Cli104.handleTimeouts c).1.log = c.log := by
  rw [handleTimeouts_idle c h3, phaseT1_fst]
  rcases phaseT2_cases c with ⟨e, _⟩ | ⟨_, _, l', hl', _, h2⟩
  · rw [e]
  · rw [hl] at hl'; cases hl'; omega

/-- t3 (client): a pass later than t3 seconds after the last reception writes TESTFR act and arms the t1
supervision of its confirmation -/
theorem client_t3_testfr (c : Cli) (hs : CliWritable c) (hexp : c.nextT3 < c.now) (ho : c.outstandingTestFR ≤ 2) :
    (∃ rest, (Iec.Cli104.handleTimeouts c).1.log = c.log ++ .tx TESTFR_ACT :: rest) ∧
    (Iec.Cli104.handleTimeouts c).1.uTimeout = c.now + c.p.t1 * 1000 ∧
    (Iec.Cli104.handleTimeouts c).1.nextT3 = c.now + c.p.t3 * 1000 := by
  unfold Iec.Cli104.handleTimeouts
  rw [phaseT3_fire c hexp ho]
  dsimp only
  rw [if_neg (by decide), phaseT1_fst]
  refine ⟨?_, (phaseT2_ackOnly (testFrSent c)).uTimeout, (phaseT2_ackOnly (testFrSent c)).nextT3⟩
  have hl : (testFrSent c).log = c.log ++ [.tx TESTFR_ACT] := congrArg Cli.log (cli_write_ok c TESTFR_ACT hs)
  -- the T2 stage that follows may append an S-frame
  rcases phaseT2_cases (testFrSent c) with ⟨e, _⟩ | ⟨e, _⟩ <;> rw [e]
  · exact ⟨[], hl⟩
  · rw [(client_confirm_spec (testFrSent c) hs).1, hl]
    exact ⟨_, List.append_assoc _ _ _⟩

/-- t1 (client): the connection is closed by a timeout exactly when a TESTFR act was already sent three times
without confirmation when the next one is due, or a U-format act (TESTFR/STARTDT/STOPDT) sent earlier has been
unconfirmed for t1 seconds, or the oldest unacknowledged I-format APDU is t1 seconds old — and not before. -/
theorem client_close_iff (c : Cli) :
    (Iec.Cli104.handleTimeouts c).2 = false ↔
      (c.now > c.nextT3 ∧ c.outstandingTestFR > 2) ∨
      (¬ c.now > c.nextT3 ∧ c.uTimeout ≠ 0 ∧ c.now > c.uTimeout) ∨
      (¬ (c.now > c.nextT3 ∧ c.outstandingTestFR > 2) ∧
        ∃ e rest, c.win = e :: rest ∧ c.now > e.sentTime ∧ c.now - e.sentTime ≥ c.p.t1 * 1000) := by
  unfold Iec.Cli104.handleTimeouts
  by_cases h3 : c.now > c.nextT3
  · by_cases ho : c.outstandingTestFR > 2
    · rw [phaseT3_giveUp c h3 ho]
      exact ⟨fun _ => Or.inl ⟨h3, ho⟩, fun _ => rfl⟩
    · -- TESTFR act sent now: its t1 supervision starts now and cannot have expired
      rw [phaseT3_fire c h3 (Nat.le_of_not_lt ho)]
      dsimp only
      rw [if_neg (by decide), phaseT1_closes_iff]
      have a := phaseT2_ackOnly (testFrSent c)
      rw [a.win, a.uTimeout, a.now, a.p]
      show _ ∨ (∃ e rest, c.win = e :: rest ∧ c.now > e.sentTime ∧ c.now - e.sentTime ≥ c.p.t1 * 1000) ↔ _
      constructor
      · rintro (⟨_, h⟩ | h)
        · exact absurd h (Nat.not_lt.mpr (Nat.le_add_right _ _))
        · exact Or.inr (Or.inr ⟨fun h => ho h.2, h⟩)
      · rintro (⟨_, h⟩ | ⟨h, _⟩ | ⟨_, h⟩)
        · exact absurd h ho
        · exact absurd h3 h
        · exact Or.inr h
  · rw [phaseT3_idle c (Nat.le_of_not_lt h3)]
    dsimp only
    rw [if_neg (by decide), phaseT1_closes_iff]
    have a := phaseT2_ackOnly c
    rw [a.win, a.uTimeout, a.now, a.p]
    constructor
    · rintro (h | h)
      · exact Or.inr (Or.inl ⟨h3, h⟩)
      · exact Or.inr (Or.inr ⟨fun h => h3 h.1, h⟩)
    · rintro (⟨h, _⟩ | ⟨_, h⟩ | ⟨_, h⟩)
      · exact absurd h h3
      · exact Or.inl h
      · exact Or.inr h

def exP : Params := { k := 12, w := 8, t0 := 10, t1 := 15, t2 := 10, t3 := 20, asduHdr := 4 }
def exC (now : Nat) : Cli := { p := exP, now := now, nextT3 := 30000, win := [{ seq := 0, sentTime := 5000, qref := none }] }
/-- non-vacuity: a client with one I-frame sent 15 s ago and t1 = 15 s closes; at 14.999 s it does not -/
example : (Iec.Cli104.handleTimeouts (exC 20000)).2 = false := by decide
example : (Iec.Cli104.handleTimeouts (exC 19999)).2 = true := by decide

end Client

end Iec.Props.C11

namespace Iec.Props.C11

/-- Acknowledged no later than after w, over every history (server).  From a freshly created server with w ≥ 1, after any
sequence of ticks (accept, reception of any messages in any segmentation, transmission, time-outs, reaping), enqueues,
restarts and environment events, every connection has fewer than w received I-format APDUs that it has not acknowledged:
the count grows only when an I-format APDU is accepted, by one, and the `w` test that follows every received message
acknowledges as soon as it reaches w. -/
theorem fewer_than_w_unacknowledged (p : Iec.Srv104.Params) (gs : List (String × List (Bool × List Nat))) (hw : 0 < p.w)
    (ops : List Iec.Srv104.WOp) (j : Nat) :
    ((ops.foldl Iec.Srv104.WOp.apply (Iec.Srv104.create p gs)).conn j).unconf < p.w :=
  (Iec.Srv104.run_uok p gs hw ops).2 j

/-- Acknowledged no later than after w, over every history (client).  For a connection object created with w ≥ 1, after
any sequence of connect / thread steps / peer and clock events / sendASDU / STARTDT / STOPDT / close, fewer than w received
I-format APDUs are unacknowledged at every blocking point of the connection thread. -/
theorem client_fewer_than_w_unacknowledged (p : Iec.Cli104.Params) (hw : 0 < p.w) (ops : List Iec.Cli104.KOp) :
    (ops.foldl Iec.Cli104.KOp.apply { p := p }).unconf < p.w :=
  (Iec.Cli104.run_cuok p hw ops).2

/-- t1, t2, t3 are enforced at every tick, for every connection at once.  For every server state with connections open:
after `CS104_Slave_tick` (accept, reception, periodic tasks of all connections in slot order) every connection that is in
use and still running
  * is not past its t3 deadline unless a TESTFR act is outstanding (it was sent in this tick at the latest),
  * has no TESTFR act outstanding for longer than t1,
  * has no I-format APDU unacknowledged by the peer for t1 or longer,
  * has not left received I-format APDUs unacknowledged for t2 or longer
(measured on the clock value of the tick; a connection that violates one of them has been marked for closing instead).
The processing of the connections that come later in the tick cannot disturb this: it touches no other connection's record
(`Lemmas/Srv104Isolated.lean`). -/
theorem deadlines_met_after_every_tick (s : Iec.Srv104.Slave) (hoc : (Iec.Srv104.accept s).openConnections > 0) (i : Nat)
    (hu : ((Iec.Srv104.tick s).conn i).isUsed = true) (hr : ((Iec.Srv104.tick s).conn i).isRunning = true) :
    Iec.Srv104.Deadlines (Iec.Srv104.tick s).p (Iec.Srv104.tick s).now ((Iec.Srv104.tick s).conn i) :=
  Iec.Srv104.hcc_deadlines (Iec.Srv104.accept s) hoc i hu hr

/-- Client: t1, t2, t3 are enforced in every pass of the connection loop.  For every client state: if the thread stays in
its loop after one pass (reception of at most one message, the `w` test, `handleTimeouts`), then it is inside t3 (a TESTFR
act was sent in this pass at the latest), no U-format act (STARTDT / STOPDT / TESTFR) has been unconfirmed for longer than
t1, the oldest unacknowledged I-format APDU is not t1 old, and received I-format APDUs have not been left
unacknowledged for t2 or longer.  (A pass that does not stay in the loop has ended the connection, by `loopIter`; which
timeouts end it is `client_close_iff`.) -/
theorem client_deadlines_met_every_pass (c : Iec.Cli104.Cli) (h3 : (Iec.Cli104.loopIter c).phase = 3) :
    Iec.Cli104.CDeadlines (Iec.Cli104.loopIter c) :=
  Iec.Cli104.loopIter_deadlines c h3

end Iec.Props.C11
