/-
C16 — CS101 end-to-end delivery between master and slave while the link is up.

Proved here: the queue discipline of `Iec.Q101` (every operation sequence): capacity, first-in first-out, oldest
displaced first; and the composed system of one master and one slave in unbalanced mode (`Lemmas/E2E101.lean`).
Master → slave (section `Line`): the master's connection state machine (`SlaveConn.run`/`handle`), the FT 1.2
encoder, the slave's transceiver, header parser and secondary state machine (`SecU.run`) put together: any number of
transfers, each with any pattern of retransmissions, lost frames, lost acknowledgements and duplicates short of the
repeat timeout, deliver every ASDU to the slave application exactly once and in order
(`master_to_slave_exactly_once_in_order`), every retransmission being the identical frame
(`retransmissions_identical`).  When the repeat timeout is reached the link is reported failed (C15 `priU_gives_up`).
Slave → master (section `Polls`): the master's request (FT 1.2 fixed frame), the slave's parser and poll handling, the
slave's response (data, "no data" as fixed frame or single character), the master's transceiver, parser (`parseBP`) and
`LinkLayerSlaveConnection_HandleMessage` put together: `slave_to_master_exactly_once_fifo_per_class` (`polls_spec`,
`serve_fifo`), `poll_retransmissions_identical`, and `single_slave_primary_run` (the model's own `PriU.run` with one
slave is the reception used in the theorems followed by the slave connection's state machine).
Link establishment (section `Establish`): `reset_establishes_sync` - RESET REMOTE LINK and its acknowledgement, in one
round without loss, put both ends at frame count bit 1 from arbitrary previous bits; `reset_then_transfers`.
Not composed in Lean: several slaves on one line, balanced mode, enqueues interleaved with polls, loss during link
establishment, behaviour at and after the repeat timeout beyond C15 `priU_gives_up`; those are explored on the real
stacks by harness/e2e101.c.
-/
import Iec.Model.Q101
import Iec.Lemmas.E2E101
namespace Iec.Props.C16
open Iec.Q101

/-- C16, capacity.  Whatever is done to a queue of configured size `n > 0`, it never holds
more than `n` ASDUs. -/
theorem never_exceeds_size (n : Nat) (hn : 0 < n) (ops : List Op) :
    ((ops.foldl Q.step (Q.init n)).items.length ≤ n) ∧ (ops.foldl Q.step (Q.init n)).size = n := by
  suffices h : ∀ q : Q, q.items.length ≤ q.size → 0 < q.size →
      (ops.foldl Q.step q).items.length ≤ q.size ∧ (ops.foldl Q.step q).size = q.size by
    exact h (Q.init n) (by simp [Q.init]) hn
  induction ops with
  | nil => intro q h _; exact ⟨h, rfl⟩
  | cons op ops ih =>
    intro q h hq
    have hstep : (q.step op).items.length ≤ (q.step op).size ∧ (q.step op).size = q.size := by
      cases op with
      | enq x =>
        simp only [Q.step, Q.enqueue]
        split
        · simp; omega
        · simp; omega
      | deq =>
        simp only [Q.step, Q.dequeue]
        split
        · exact ⟨h, rfl⟩
        · rename_i x rest heq
          rw [heq] at h; simp at h ⊢; omega
      | flush => simp [Q.step, Q.flush]
    have := ih (q.step op) hstep.1 (by rw [hstep.2]; exact hq)
    rw [List.foldl_cons]
    exact ⟨by rw [← hstep.2]; exact this.1, by rw [this.2, hstep.2]⟩

theorem enqueue_all (xs : List (List Nat)) :
    ∀ q : Q, q.items.length + xs.length ≤ q.size → (xs.foldl Q.enqueue q).items = q.items ++ xs := by
  induction xs with
  | nil => intro q _; simp
  | cons x xs ih =>
    intro q hq
    simp only [List.length_cons] at hq
    rw [List.foldl_cons]
    have hlt : q.items.length < q.size := by omega
    have he : (q.enqueue x) = { q with items := q.items ++ [x] } := by simp [Q.enqueue, hlt]
    rw [he, ih]
    · simp
    · show (q.items ++ [x]).length + xs.length ≤ q.size
      simp; omega

/-- C16, it holds exactly the configured number.  Up to `n` enqueues into an empty queue of size
`n` are all kept, in order. -/
theorem holds_exactly_size (n : Nat) (xs : List (List Nat)) (h : xs.length ≤ n) :
    (xs.foldl Q.enqueue (Q.init n)).items = xs := by
  simpa [Q.init] using enqueue_all xs (Q.init n) (by simpa [Q.init] using h)

/-- C16, oldest displaced first.  Enqueueing into a full queue drops exactly the oldest
entry and keeps the order of the others; the new entry is the newest. -/
theorem full_displaces_oldest (q : Q) (x : List Nat) (hf : q.items.length = q.size) :
    (q.enqueue x).items = q.items.tail ++ [x] := by
  simp [Q.enqueue, hf]

theorem not_full_appends (q : Q) (x : List Nat) (hf : q.items.length < q.size) :
    (q.enqueue x).items = q.items ++ [x] := by
  simp [Q.enqueue, hf]

/-- C16, first-in first-out.  A dequeue hands out the oldest entry and removes only it. -/
theorem dequeue_is_fifo (q : Q) (x : List Nat) (rest : List (List Nat)) (h : q.items = x :: rest) :
    q.dequeue = ({ q with items := rest }, some x) := by
  simp [Q.dequeue, h]

theorem dequeue_empty (q : Q) (h : q.items = []) : q.dequeue = (q, none) := by
  simp [Q.dequeue, h]

theorem dequeue_snd (q : Q) : q.dequeue.2 = q.items.head? := by
  unfold Q.dequeue; cases hq : q.items <;> simp
theorem dequeue_fst_items (q : Q) : q.dequeue.1.items = q.items.tail := by
  unfold Q.dequeue; cases hq : q.items <;> simp [hq]

theorem drain_items (k : Nat) : ∀ q : Q,
    ((List.range k).foldl (fun q _ => q.dequeue.1) q).items = q.items.drop k := by
  induction k with
  | zero => intro q; simp
  | succ k ih =>
    intro q
    rw [List.range_succ, List.foldl_append, List.foldl_cons, List.foldl_nil, dequeue_fst_items, ih]
    simp

/-- enqueue then drain: what comes out is what went in, in the same order (no overflow) -/
theorem fifo_through (n : Nat) (xs : List (List Nat)) (h : xs.length ≤ n) (k : Nat) :
    ((List.range k).foldl (fun q _ => q.dequeue.1) (xs.foldl Q.enqueue (Q.init n))).dequeue.2 = xs[k]? := by
  rw [dequeue_snd, drain_items, holds_exactly_size n xs h]
  simp

/-! Tests: not vacuous. -/
example : ((Q.init 2).enqueue [1] |>.enqueue [2] |>.enqueue [3]).items = [[2], [3]] := by decide
example : (((Q.init 2).enqueue [1] |>.enqueue [2]).dequeue).2 = some [1] := by decide

section Line
open Iec.Link101

/-- C16, master → slave.  Every ASDU the master application sends reaches the slave application exactly once, first-in
first-out, for every list of transfers and, in each, every pattern of master runs (retransmissions), of copies reaching the
slave (at least one; duplicates allowed) and one of the slave's acknowledgements coming back, as long as the repeat timeout is not
reached; and the two stations end synchronised, so the statement composes with whatever follows -/
theorem master_to_slave_exactly_once_in_order (y : Sys) (ks : List Transfer) (hy : Sync y)
    (hk : ∀ k ∈ ks, k.d ≠ [] ∧ 1 + y.lm.p.addrLen + k.d.length ≤ 255 ∧ ∀ t ∈ k.waits, ¬ t > k.t0 + y.lm.p.tRepeat) :
    rxOf (y.transfers ks).2.1 = ks.map (·.d) ∧ Sync (y.transfers ks).1 :=
  ⟨(transfers_spec ks y hy hk).2, (transfers_spec ks y hy hk).1⟩

/-- within a transfer every frame the master writes is the same frame (the original and each retransmission),
carrying the frame count bit the slave expects -/
theorem retransmissions_identical (y : Sys) (k : Transfer) (hy : Sync y) (hk : k.Ok y) :
    ∃ f, varFrame y.lm.p.addrLen (ctrl 3 true false y.s.expectedFcb true) y.c.address k.d = some f ∧
      (∀ g ∈ (y.transfer k).2.2, g = f) ∧ f ∈ (y.transfer k).2.2 := by
  obtain ⟨_, _, _, f, h1, h2, h3⟩ := transfer_spec y k hy hk
  exact ⟨f, by rw [hy.bit]; exact h1, h2, h3⟩

/-! Tests: a synchronised pair, two transfers, the first with a retransmission and a duplicate -/
def demoP : Params := ⟨1, 200, 1000, false, 500, by omega⟩
def demoSys : Sys :=
  { c := { address := 5, pstate := 3 }, lm := { p := demoP, address := 0 }, s := { ll := { p := demoP, address := 5 } } }
def demoKs : List Transfer :=
  [{ d := [1, 2, 3], t0 := 1000, waits := [1100, 1300], t := 1010, ts := [1310], tAck := 1320 },
   { d := [4], t0 := 2000, waits := [], t := 2010, ts := [], tAck := 2020 }]
example : Sync demoSys := ⟨rfl, rfl, rfl, rfl, rfl, rfl, Or.inr (Or.inl ⟨rfl, by decide⟩), ⟨by decide, by decide⟩⟩
example : rxOf (demoSys.transfers demoKs).2.1 = [[1, 2, 3], [4]] := by decide
/-- the master wrote the first frame twice (one retransmission), the second once -/
example : (demoSys.transfers demoKs).2.2 =
    [[0x68, 5, 5, 0x68, 0x73, 5, 1, 2, 3, 0x7e, 0x16], [0x68, 5, 5, 0x68, 0x73, 5, 1, 2, 3, 0x7e, 0x16],
     [0x68, 3, 3, 0x68, 0x53, 5, 4, 0x5c, 0x16]] := by decide

end Line

section Polls
open Iec.Link101

/-- C16, slave → master.  The ASDUs the slave application queued reach the master application exactly once, first-in
first-out within their class, one per poll of the class: for every sequence of polls — each with any pattern of master runs (retransmitted requests), copies of
the request reaching the slave (at least one; duplicates allowed) and one of the slave's responses reaching the master,
short of the repeat timeout — what the master's `UserData` callback receives is, poll by poll, what the specification
`View.serve` takes from the slave's queues (`polls_spec`); per class that is the beginning of the class's queue, as
long as the number of polls of that class (`serve_fifo`): nothing lost, nothing twice, nothing reordered. -/
theorem slave_to_master_exactly_once_fifo_per_class (y : Sys) (ks : List Poll) (hy : Sync y) (hf : y.s.view.QueuesFit)
    (hk : ∀ k ∈ ks, ∀ t ∈ k.waits, ¬ t > k.t0 + y.lm.p.tRepeat) (cls : Bool) :
    udOf (y.polls ks).2.1 = (y.s.view.serve (y.polls ks).2.2).2.map (·.2) ∧
    (((y.s.view.serve (y.polls ks).2.2).2.filter (fun x => x.1 == cls)).map (·.2)
      = (if cls then y.s.c1 else y.s.c2).take ((y.polls ks).2.2.count cls)) ∧
    Sync (y.polls ks).1 :=
  ⟨(polls_spec ks y hy hf hk).2.2, serve_fifo cls _ _ hy.queues, (polls_spec ks y hy hf hk).1⟩

/-- within a poll every request frame the master writes is the same frame (the original and each retransmission) -/
theorem poll_retransmissions_identical (y : Sys) (k : Poll) (hy : Sync y) (hf : y.s.view.QueuesFit)
    (hk : ∀ t ∈ k.waits, ¬ t > k.t0 + y.lm.p.tRepeat) :
    ∀ g ∈ (y.poll k).2.2.1, g = pollFrame y.s.view (k.cls1 || y.c.req1) y.s.expectedFcb :=
  (poll_spec y k hy hf hk).2.2.2.2.2

/-- `LinkLayerPrimaryUnbalanced_run` for a master with one slave is the reception used above followed by that
slave's state machine — the pieces the composed theorems are stated on are the model's own `PriU.run` -/
theorem single_slave_primary_run (c : SlaveConn) (l : LL) (q : List Nat) (now : Nat) :
    (single c l).run q now =
      (single ((connRecv c l q now).1.run (connRecv c l q now).2.1 now).1 ((connRecv c l q now).1.run (connRecv c l q now).2.1 now).2.1,
       (readNext l.p.addrLen q l.buf).1,
       (connRecv c l q now).2.2 ++ ((connRecv c l q now).1.run (connRecv c l q now).2.1 now).2.2) :=
  priU_run_single c l q now

/-! Tests: class 2 poll with a retransmission and a duplicate, class 1, class 2, class 2 on an empty queue -/
def demoSys2 : Sys :=
  { c := { address := 5, pstate := 3 }, lm := { p := demoP, address := 0 },
    s := { ll := { p := demoP, address := 5 }, c1 := [[1]], c2 := [[7, 7], [8]] } }
def demoPolls : List Poll :=
  [{ cls1 := false, t0 := 1000, waits := [1100, 1300], t := 1010, ts := [1310], tR := 1320 },
   { cls1 := true, t0 := 2000, waits := [], t := 2010, ts := [], tR := 2020 },
   { cls1 := false, t0 := 3000, waits := [], t := 3010, ts := [], tR := 3020 },
   { cls1 := false, t0 := 4000, waits := [], t := 4010, ts := [], tR := 4020 }]
example : Sync demoSys2 := ⟨rfl, rfl, rfl, rfl, rfl, rfl, Or.inr (Or.inl ⟨rfl, by decide⟩), ⟨by decide, by decide⟩⟩
example : demoSys2.s.view.QueuesFit := ⟨by decide, by decide⟩
example : udOf (demoSys2.polls demoPolls).2.1 = [[7, 7], [1], [8]] := by decide
example : (demoSys2.polls demoPolls).1.s.c2 = [] ∧ (demoSys2.polls demoPolls).1.s.c1 = [] := by decide

end Polls

section Establish
open Iec.Link101

/-- C16 / C15, link establishment.  After an acknowledged link reset both ends hold frame count bit 1 for the first frame
with the frame-count-valid bit, whatever the two stations held before (composed: master state machine, encoder, slave parser and reset handling,
the slave's acknowledgement through the master's parser): the procedure ends in the synchronised state from which
`master_to_slave_exactly_once_in_order` and `slave_to_master_exactly_once_fifo_per_class` start; the slave's queues are
untouched -/
theorem reset_establishes_sync (y : Sys) (t0 tS tA : Nat) (hy : PreSync y) :
    Sync (y.establish t0 tS tA).1 ∧ (y.establish t0 tS tA).1.c.nextFcb = true ∧
    (y.establish t0 tS tA).1.s.expectedFcb = true ∧
    (y.establish t0 tS tA).1.s.c1 = y.s.c1 ∧ (y.establish t0 tS tA).1.s.c2 = y.s.c2 :=
  establish_spec y t0 tS tA hy

/-- establishment followed by any transfers: everything is delivered exactly once in order, from arbitrary initial bits -/
theorem reset_then_transfers (y : Sys) (t0 tS tA : Nat) (hy : PreSync y) (ks : List Transfer)
    (hk : ∀ k ∈ ks, k.d ≠ [] ∧ 1 + (y.establish t0 tS tA).1.lm.p.addrLen + k.d.length ≤ 255 ∧
      ∀ t ∈ k.waits, ¬ t > k.t0 + (y.establish t0 tS tA).1.lm.p.tRepeat) :
    rxOf ((y.establish t0 tS tA).1.transfers ks).2.1 = ks.map (·.d) :=
  (master_to_slave_exactly_once_in_order _ ks (establish_spec y t0 tS tA hy).1 hk).1

/-- a test: both stations start with the "wrong" bit 0; after the reset procedure a transfer is delivered -/
def demoPre : Sys :=
  { c := { address := 5, pstate := 1, nextFcb := false }, lm := { p := demoP, address := 0 },
    s := { ll := { p := demoP, address := 5 }, expectedFcb := false } }
example : PreSync demoPre := ⟨rfl, rfl, rfl, rfl, rfl, rfl, Or.inr (Or.inl ⟨rfl, by decide⟩), ⟨by decide, by decide⟩⟩
example : (demoPre.establish 100 110 120).2 = [[0x10, 0x40, 5, 0x45, 0x16]] := by decide
example : rxOf (((demoPre.establish 100 110 120).1.transfers
    [{ d := [9, 9], t0 := 1000, waits := [], t := 1010, ts := [], tAck := 1020 }]).2.1) = [[9, 9]] := by decide

end Establish

end Iec.Props.C16
