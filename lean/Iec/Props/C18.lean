import Iec.Props.C08
import Iec.Lemmas.Cli104Life
import Iec.Lemmas.Srv104LifeLog
/-
C18 — Connection lifecycle, accounting and event notifications are consistent.

Statement (properties.jsonl): opened exactly once before any other event, closed at most
once and nothing after, closed whenever a connection ends while the server runs,
activated/deactivated alternate; after each processing step the reported number of open
connections equals the number of open connections; closed connections free their slot;
stop/destroy closes everything; create/start/stop/destroy in any order releases every
resource (client: closed/failed exactly once per attempt).

Partial (server, threadless mode only).  Over every history (`Lemmas/Srv104LifeLog.lean`: the invariant `LInv` across
every atom of the server model, `linv_atom`): `server_events_follow_grammar`, `server_events_match_state`, `open_connections_is_used_slots`.  Step laws: `refused_accept_keeps_counter`, `deactivate_event` /
`activate_event` (DEACTIVATED only from started, ACTIVATED only into started: the two
alternate).  The same global statements (event grammar per connection, counter = used slots
after every tick) are ALSO checked on every operation of the correspondence run by the harness
oracle on the real structures, and LeakSanitizer + the simulated HAL's live-object counters
check create/start/stop/destroy cycles of the episodes (threadless stop + restart: operation `s.restart`, model
`Iec.Srv104.restart`; threaded server: accounting oracle of harness/locks_dyn.c).
Client: `client_reports_end_exactly_once` - for every history of a connection attempt (thread steps, peer and clock
changes, application calls, in any order) the attempt reports OPENED at most once and first and, once the thread has
finished, exactly one of CLOSED / FAILED, nothing after (`Lemmas/Cli104Life.lean`: invariant `LifeInv`, `step_spec`,
`attempt_life`); tied by the client differential.
-/
namespace Iec.Props.C18
open Iec.Srv104

/-- DEACTIVATED is reported exactly when a used, started connection is deactivated -/
theorem deactivate_event (s : Slave) (j : Nat) :
    (deactivate s j).log = if (s.conn j).isUsed && (s.conn j).state = 1 then s.log ++ [.ev j "DEACTIVATED"] else s.log := by
  rcases deactivate_cases s j with ⟨h, e⟩ | ⟨h1, h2, e⟩ <;> rw [e]
  · rw [if_neg (by simpa using h)]; rfl
  · rw [if_pos (by simp [h1, h2])]; rfl

/-- ACTIVATED is reported exactly when a connection that is not started is activated -/
theorem activate_event (s : Slave) (i : Nat) :
    (activateConn s i).log = if (s.conn i).state != 1 then s.log ++ [.ev i "ACTIVATED"] else s.log := by
  rcases activateConn_cases s i with ⟨h, e⟩ | ⟨h, e⟩ <;> rw [e]
  · rw [if_neg (by simp [h])]; rfl
  · rw [if_pos (by simpa using h)]; rfl

/-- a connection refused because `maxOpenConnections` is reached (C08 `limit_refuses`) is not counted and reports no
event -/
theorem refused_accept_keeps_counter (s : Slave) (hl : 1 ≤ s.p.maxOpen) (hfull : (s.p.maxOpen : Int) ≤ s.openConnections) :
    (accept s).openConnections = s.openConnections ∧ (accept s).log = s.log := by
  rw [Iec.Props.C08.limit_refuses s hl hfull]; exact ⟨rfl, rfl⟩

/-- The event grammar, over every history.  From a freshly created server, after any sequence of ticks (accept, receive,
STARTDT / STOPDT, time-outs, reaping of ended connections), enqueues and environment events, the events reported for every
slot have followed, at every moment of the history, the automaton
`no connection -OPENED-> open -ACTIVATED-> started -DEACTIVATED-> open ...; open | started -CLOSED-> no connection`:
OPENED exactly once and first, ACTIVATED / DEACTIVATED alternating, CLOSED at most once and nothing after it but the
OPENED of the next connection in that slot (state 3 = "violated" is absorbing, so it suffices that every prefix avoids it). -/
theorem server_events_follow_grammar (p : Params) (gs : List (String × List (Bool × List Nat))) (ops : List LOp) (j : Nat)
    (l1 l2 : List Obs) (hl : (ops.foldl LOp.apply (create p gs)).log = l1 ++ l2) : lifeOf l1 j ≠ 3 := by
  apply lifeOf_prefix l1 l2 j
  rw [← hl, run_linv p gs ops j]
  exact expected_ne_3 _

/-- The events match the state, over every history: a slot is in use exactly while its last OPENED has not been
followed by CLOSED, and the connection in it is STARTED exactly while the last event is ACTIVATED -/
theorem server_events_match_state (p : Params) (gs : List (String × List (Bool × List Nat))) (ops : List LOp) (j : Nat) :
    let s := ops.foldl LOp.apply (create p gs)
    ((s.conn j).isUsed = true ↔ (lifeOf s.log j = 1 ∨ lifeOf s.log j = 2)) ∧
    ((s.conn j).isUsed = true → ((s.conn j).state = 1 ↔ lifeOf s.log j = 2)) := by
  intro s
  have h' : lifeOf s.log j = expected (s.conn j) := run_linv p gs ops j
  rw [h']
  unfold expected
  cases hu : (s.conn j).isUsed
  · simp
  · by_cases h1 : (s.conn j).state = 1 <;> simp [h1]

/-- `CS104_Slave_getOpenConnections` equals the number of slots in use, over every history -/
theorem open_connections_is_used_slots (p : Params) (gs : List (String × List (Bool × List Nat))) (ops : List LOp) :
    (ops.foldl LOp.apply (create p gs)).openConnections = ((ops.foldl LOp.apply (create p gs)).conns.countP (·.isUsed) : Int) :=
  run_oc p gs ops

/-- non-vacuity of the automaton: a well-formed life of slot 0 ends in "no connection", a second CLOSED is a violation -/
example : lifeOf [.ev 0 "OPENED", .ev 0 "ACTIVATED", .tx 0 [1], .ev 1 "OPENED", .ev 0 "DEACTIVATED", .ev 0 "CLOSED"] 0 = 0 ∧
    lifeOf [.ev 0 "OPENED", .ev 0 "CLOSED", .ev 0 "CLOSED"] 0 = 3 ∧ lifeOf [.ev 0 "ACTIVATED"] 0 = 3 := by decide

/-- non-vacuity on a concrete history: a client connects and sends STARTDT act - slot 0 is in use and started, the log
says OPENED, ACTIVATED, and the counter is 1 -/
def lifeDemoOps : List LOp := [.env (lenvPending {}), .tick, .env (lenvFeed 0 [0x68, 4, 7, 0, 0, 0]), .tick]
example : let s := lifeDemoOps.foldl LOp.apply (create lifeDemoParams [])
    (s.conn 0).isUsed = true ∧ (s.conn 0).state = 1 ∧ lifeOf s.log 0 = 2 ∧ s.openConnections = 1 ∧
    s.log.map (fun o => match o with | .ev _ w => w | .tx _ _ => "tx" | _ => "?") = ["OPENED", "ACTIVATED", "tx"] := by decide

section Client
open Iec.Cli104

/-- The client reports closed / failed exactly once per connection attempt: after `connectAsync`, whatever the
connection thread, the peer, the clock and the application do and in whatever order, the life-cycle events of the
attempt are: nothing yet (thread before / inside connect), `OPENED` (connected), and once the thread has finished
either `OPENED, CLOSED` or `FAILED` - and a finished thread does nothing more (`step_spec`, last clause), so nothing
follows. -/
theorem client_reports_end_exactly_once (c0 : Cli) (ops : List COp) :
    LifeInv (life c0.log) (ops.foldl COp.apply (connectAsync c0)) := attempt_life c0 ops

/-- once finished, the thread reports nothing more -/
theorem client_finished_is_final (c : Cli) (h : c.phase = 4) : Iec.Cli104.step c = c :=
  (step_spec c).2.2.2 (by omega) (by omega) (by omega)

end Client

end Iec.Props.C18
