/-
Model of the CS101 link layer: lib60870-C/src/iec60870/link_layer/link_layer.c and
serial_transceiver_ft_1_2.c (FT 1.2 framing, the four link-layer roles).

The C code keeps one 261-octet `buffer` per link layer, used both for the frame being
received and for the frame being sent; parsers index into it without re-checking the
received length, so octets left over from earlier frames can be read for malformed
short frames.  The model therefore carries the buffer itself (`buf`, 261 octets) and
reads it exactly where the C code does.

The application layer is a parameter of the C code (function-pointer tables); here it
is the simplest stand-in, identical to the stubs of harness/ll101.c: queues of octet
strings that `GetClass1Data` / `GetClass2Data` / `GetUserData` pop, and a Boolean that
`HandleReceivedData` returns.  The real application layers (cs101_slave.c,
cs101_master.c) are exercised end to end by harness/e2e101.c (C16).
Time is the virtual clock of the simulated HAL, in ms.
-/
namespace Iec.Link101

structure Params where
  addrLen : Nat
  tAck : Nat
  tRepeat : Nat
  singleAck : Bool
  tLinkState : Nat
  /-- the configurations the library documents: no address, one or two octets -/
  hA : addrLen ≤ 2
  deriving Repr, DecidableEq

instance : Inhabited Params := ⟨⟨0, 0, 0, false, 0, by omega⟩⟩

def sum8 (l : List Nat) : Nat := l.foldl (fun s x => (s + x) % 256) 0

/-- **What "a well-formed FT 1.2 frame carrying the configured address width" means**,
stated on the octets alone (independent of the encoder below): the single character E5;
or `10 C A* CS 16` with `aL` address octets and CS the modulo-256 sum of C and A; or
`68 L L 68 C A* data CS 16` where both length octets are equal, give the true number of
octets between the second start octet and the checksum, leave room for C and A, and CS
is the modulo-256 sum of those `L` octets. -/
def WellFormed (aL : Nat) (f : List Nat) : Prop :=
  f = [0xe5] ∨
  (f.length = 4 + aL ∧ f[0]? = some 0x10 ∧ f[3 + aL]? = some 0x16 ∧
    f[2 + aL]? = some (sum8 ((f.drop 1).take (1 + aL)))) ∨
  (∃ L, f.length = L + 6 ∧ L ≤ 255 ∧ 1 + aL ≤ L ∧ f[0]? = some 0x68 ∧ f[1]? = some L ∧ f[2]? = some L ∧
    f[3]? = some 0x68 ∧ f[L + 5]? = some 0x16 ∧ f[L + 4]? = some (sum8 ((f.drop 4).take L)))

/-- a frame handed to the serial port, with the evidence that it is well-formed: every
`Obs.tx` of the model carries one, so "every frame the stack writes is well-formed" holds
for every execution of the model by construction (`Iec.Props.C14.every_tx_wellformed`) -/
structure TxFrame where
  aL : Nat
  bytes : List Nat
  wf : WellFormed aL bytes
  deriving DecidableEq, Repr

inductive Obs where
  | tx (f : TxFrame)
  /-- `HandleReceivedData` on a secondary / balanced station -/
  | rx (bc : Bool) (d : List Nat)
  | resetCU (onlyFcb : Bool)
  /-- link state callback: slave address (-1 when not applicable), new state -/
  | st (addr : Int) (s : Nat)
  /-- primary unbalanced: `UserData` -/
  | ud (addr : Int) (d : List Nat)
  | ad (addr : Int)
  deriving Repr, DecidableEq

instance : Inhabited Obs := ⟨.ad 0⟩

/-! ### FT 1.2 encoding (SendFixedFrame, SendVariableLengthFrame, SendSingleCharCharacter) -/

def b2n (b : Bool) : Nat := if b then 1 else 0

/-- the control octet: `fc & 0x0f`, `+0x40` PRM, `+0x80` DIR, `+0x20` ACD/FCB, `+0x10` DFC/FCV -/
def ctrl (fc : Nat) (prm dir acd dfc : Bool) : Nat :=
  (fc % 16 + 0x40 * b2n prm + 0x80 * b2n dir + 0x20 * b2n acd + 0x10 * b2n dfc) % 256

def addrBytes (aL : Nat) (address : Nat) : List Nat :=
  (if aL > 0 then [address % 256] else []) ++ (if aL > 1 then [address / 256 % 256] else [])

def fixedFrame (aL : Nat) (c address : Nat) : List Nat :=
  let body := c :: addrBytes aL address
  [0x10] ++ body ++ [sum8 body, 0x16]

/-- `none`: the C function returns without sending (`l > 255`) -/
def varFrame (aL : Nat) (c address : Nat) (data : List Nat) : Option (List Nat) :=
  let l := 1 + aL + data.length
  if l > 255 then none
  else
    let body := c :: addrBytes aL address ++ data
    some ([0x68, l, l, 0x68] ++ body ++ [sum8 body, 0x16])

def singleChar : List Nat := [0xe5]

/-! ### the encoders produce well-formed frames (the evidence carried by `TxFrame`) -/

theorem addrBytes_length (aL a : Nat) (h : aL ≤ 2) : (addrBytes aL a).length = aL := by
  have : aL = 0 ∨ aL = 1 ∨ aL = 2 := by omega
  rcases this with rfl | rfl | rfl <;> simp [addrBytes]

theorem fixedFrame_wf (aL c a : Nat) (h : aL ≤ 2) : WellFormed aL (fixedFrame aL c a) := by
  have : aL = 0 ∨ aL = 1 ∨ aL = 2 := by omega
  right; left
  rcases this with rfl | rfl | rfl <;> simp [fixedFrame, addrBytes]

theorem varBody_wf (aL : Nat) (body : List Nat) (h1 : 1 + aL ≤ body.length) (h2 : body.length ≤ 255) :
    WellFormed aL ([0x68, body.length, body.length, 0x68] ++ body ++ [sum8 body, 0x16]) := by
  refine .inr (.inr ⟨body.length, by simp, h2, h1, rfl, rfl, rfl, rfl, ?_, ?_⟩) <;> simp

theorem varFrame_wf (aL c a : Nat) (d f : List Nat) (h : aL ≤ 2) (hv : varFrame aL c a d = some f) :
    WellFormed aL f := by
  have hl : (c :: addrBytes aL a ++ d).length = 1 + aL + d.length := by
    simp [addrBytes_length aL a h]; omega
  unfold varFrame at hv
  simp only [← hl] at hv
  split at hv
  · cases hv
  · cases hv
    exact varBody_wf aL _ (by omega) (by omega)

theorem single_wf (aL : Nat) : WellFormed aL singleChar := Or.inl rfl

/-! ### the shared buffer -/

def bufSize : Nat := 261

/-- write `bytes` into `buf` from position `pos` -/
def writeAt (buf : List Nat) (pos : Nat) (bytes : List Nat) : List Nat :=
  buf.take pos ++ bytes ++ buf.drop (pos + bytes.length)

/-- SendVariableLengthFrame writes octets 0,3,4.. and the address *before* the length
check, so a refused frame still changes the buffer -/
def varFramePartial (aL : Nat) (buf : List Nat) (c address : Nat) : List Nat :=
  let buf := writeAt buf 0 [0x68]
  let buf := writeAt buf 3 [0x68, c]
  writeAt buf 5 (addrBytes aL address)

structure LL where
  p : Params
  address : Nat
  dir : Bool := false
  buf : List Nat := List.replicate bufSize 0
  /-- userDataBuffer[0..userDataSize) -/
  userData : List Nat := []
  deriving Repr, DecidableEq

def LL.sendFixed (l : LL) (fc address : Nat) (prm dir acd dfc : Bool) : LL × List Obs :=
  let f := fixedFrame l.p.addrLen (ctrl fc prm dir acd dfc) address
  ({ l with buf := writeAt l.buf 0 f }, [.tx ⟨l.p.addrLen, f, fixedFrame_wf _ _ _ l.p.hA⟩])

def LL.sendVar (l : LL) (fc address : Nat) (prm dir acd dfc : Bool) (data : List Nat) : LL × List Obs :=
  let c := ctrl fc prm dir acd dfc
  match hv : varFrame l.p.addrLen c address data with
  | none => ({ l with buf := varFramePartial l.p.addrLen l.buf c address }, [])
  | some f => ({ l with buf := writeAt l.buf 0 f }, [.tx ⟨l.p.addrLen, f, varFrame_wf _ _ _ _ _ l.p.hA hv⟩])

def LL.sendSingle (l : LL) : LL × List Obs := (l, [.tx ⟨l.p.addrLen, singleChar, single_wf _⟩])

/-! ### SerialTransceiverFT12_readNextMessage

`q` is what the serial port holds; a read on an empty port returns -1 at once (the
simulated port has no timeouts: what is not there when the frame is read is a gap
longer than the character timeout).  Returns the new port content, the new buffer and
the size of the delimited message (`none`: nothing handed to the link layer). -/
def readNext (aL : Nat) (q : List Nat) (buf : List Nat) : List Nat × List Nat × Option Nat :=
  match q with
  | [] => ([], buf, none)
  | 0x68 :: rest =>
    match rest with
    | [] => ([], buf, none)                         -- sync error: discard
    | l :: rest' =>
      let buf := writeAt buf 0 [0x68, l]
      let want := l + 4
      let got := rest'.take want
      let buf := writeAt buf 2 got
      if got.length = want then (rest'.drop want, buf, some (want + 2))
      else ([], buf, none)                          -- ran dry: everything read so far is lost
  | 0x10 :: rest =>
    let buf := writeAt buf 0 [0x10]
    let want := 3 + aL
    let got := rest.take want
    let buf := writeAt buf 1 got
    if got.length = want then (rest.drop want, buf, some (want + 1))
    else ([], buf, none)
  | 0xe5 :: rest => (rest, writeAt buf 0 [0xe5], some 1)
  | _ :: _ => ([], buf, none)                       -- sync error: discard the port

/-! ### header parsing common to all roles -/

def g (buf : List Nat) (i : Nat) : Nat := buf.getD i 0

/-! ### secondary, unbalanced (the CS101 slave's link layer) -/

structure SecU where
  ll : LL
  state : Nat := 0
  expectedFcb : Bool := true
  lastReceived : Nat := 0
  idleTimeout : Nat := 500
  /-- stub application layer -/
  c1 : List (List Nat) := []
  c2 : List (List Nat) := []
  deriving Repr, DecidableEq

def SecU.setState (s : SecU) (n : Nat) : SecU × List Obs :=
  if s.state ≠ n then ({ s with state := n }, [.st (-1) n]) else (s, [])

def checkFCB (expected fcb : Bool) : Bool × Bool :=
  if fcb != expected then (false, expected) else (true, !expected)

def userDataOf (buf : List Nat) (start : Nat) (len : Int) : List Nat :=
  (buf.drop start).take len.toNat

/-- the response to a poll: the data (FC 8) or "no data" (single character when allowed, else FC 9) -/
def SecU.answer (s : SecU) (asdu : Option (List Nat)) : SecU × List Obs :=
  let acd := !s.c1.isEmpty
  match asdu with
  | some d =>
    let (l, o) := s.ll.sendVar 8 s.ll.address false false acd false d
    ({ s with ll := l }, o)
  | none =>
    if s.ll.p.singleAck && !acd then
      let (l, o) := s.ll.sendSingle; ({ s with ll := l }, o)
    else
      let (l, o) := s.ll.sendFixed 9 s.ll.address false false acd false
      ({ s with ll := l }, o)

/-- answer of a class-1 / class-2 poll -/
def SecU.poll (s : SecU) (cls1 : Bool) (fcb fcv : Bool) : SecU × List Obs :=
  let (valid, exp') := if fcv then checkFCB s.expectedFcb fcb else (true, s.expectedFcb)
  let s := { s with expectedFcb := exp' }
  -- which data goes out
  let (s, asdu) : SecU × Option (List Nat) :=
    if !valid then (s, if s.ll.userData.length > 0 then some s.ll.userData else none)
    else
      let (q, rest) := if cls1 then (s.c1.head?, s.c1.tail) else (s.c2.head?, s.c2.tail)
      let s := if cls1 then { s with c1 := rest } else { s with c2 := rest }
      match q with
      | some d => ({ s with ll := { s.ll with userData := d } }, some d)
      | none => ({ s with ll := { s.ll with userData := [] } }, none)
  s.answer asdu

/-- ACK as single character (when configured and allowed here) or fixed frame FC 0 -/
def SecU.ack (s : SecU) (acd singleOk : Bool) : SecU × List Obs :=
  if s.ll.p.singleAck && singleOk then
    let (l, o) := s.ll.sendSingle; ({ s with ll := l }, o)
  else
    let (l, o) := s.ll.sendFixed 0 s.ll.address false false acd false
    ({ s with ll := l }, o)

/-- FC 0 / FC 7: reset of the remote link / of the frame count bit -/
def SecU.reset (s : SecU) (fc : Nat) (fcb fcv : Bool) : SecU × List Obs :=
  if fcv || fcb then s.setState 1
  else
    let s := { s with expectedFcb := true }
    let (s, o) := s.ack false true
    (s, o ++ [.resetCU (fc = 7)])

/-- FC 3: user data, confirmed -/
def SecU.userData (s : SecU) (bc fcb fcv : Bool) (udStart : Nat) (udLen : Int) : SecU × List Obs :=
  let (valid, exp') := if fcv then checkFCB s.expectedFcb fcb else (true, s.expectedFcb)
  let s := { s with expectedFcb := exp' }
  let o := if valid && udLen > 0 then [Obs.rx bc (userDataOf s.ll.buf udStart udLen)] else []
  let acd := !s.c1.isEmpty
  let (s, o') := s.ack acd (!acd)
  (s, o ++ o')

def SecU.handleMessage (s : SecU) (fc : Nat) (bc fcb fcv : Bool) (udStart : Nat) (udLen : Int) :
    SecU × List Obs :=
  let (s, o0) := s.setState 3
  let (s, o1) : SecU × List Obs :=
    if fc = 9 then
      if fcv then s.setState 1
      else
        let (l, o) := s.ll.sendFixed 11 s.ll.address false false (!s.c1.isEmpty) false
        ({ s with ll := l }, o)
    else if fc = 0 ∨ fc = 7 then s.reset fc fcb fcv
    else if fc = 11 then s.poll false fcb fcv
    else if fc = 10 then s.poll true fcb fcv
    else if fc = 3 then s.userData bc fcb fcv udStart udLen
    else if fc = 4 then
      if fcv then s.setState 1
      else (s, if udLen > 0 then [Obs.rx bc (userDataOf s.ll.buf udStart udLen)] else [])
    else
      let (l, o) := s.ll.sendFixed 15 s.ll.address false false false false
      ({ s with ll := l }, o)
  (s, o0 ++ o1)

/-- outcome of the header checks of ParserHeaderSecondaryUnbalanced -/
inductive Verdict where
  /-- frame rejected, link state set to ERROR -/
  | error
  /-- addressed to another station: silently ignored -/
  | ignore
  | ok (fc : Nat) (bc fcb fcv : Bool) (udStart : Nat) (udLen : Int)
  deriving Repr, DecidableEq

/-! the quantities ParserHeaderSecondaryUnbalanced computes from the buffer -/

def isVar (l : LL) : Prop := g l.buf 0 = 0x68
def isFixed (l : LL) : Prop := g l.buf 0 = 0x10
instance (l : LL) : Decidable (isVar l) := by unfold isVar; infer_instance
instance (l : LL) : Decidable (isFixed l) := by unfold isFixed; infer_instance
/-- `userDataLength` of a variable-length frame (can be negative for a malformed `L`) -/
def hUdLen (l : LL) : Int := (g l.buf 1 : Int) - l.p.addrLen - 1
def hUdStart (l : LL) : Nat := 5 + l.p.addrLen
/-- the size the frame must have: `userDataStart + userDataLength + 2` -/
def sizeOk (l : LL) (msgSize : Nat) : Prop := (msgSize : Int) = (hUdStart l : Int) + hUdLen l + 2
instance (l : LL) (n : Nat) : Decidable (sizeOk l n) := by unfold sizeOk; infer_instance
def hCtrl (l : LL) : Nat := if isVar l then g l.buf 4 else g l.buf 1
def hCsStart (l : LL) : Nat := if isVar l then 4 else 1
def hCsIndex (l : LL) : Int := if isVar l then (hUdStart l : Int) + hUdLen l else 2 + l.p.addrLen
/-- the station address carried by the frame in the buffer -/
def frameAddress (l : LL) : Nat :=
  if l.p.addrLen > 0 then g l.buf (hCsStart l + 1) + (if l.p.addrLen > 1 then g l.buf (hCsStart l + 2) * 256 else 0)
  else 0
def isBroadcast (l : LL) : Prop :=
  if l.p.addrLen > 1 then frameAddress l = 65535 else if l.p.addrLen > 0 then frameAddress l = 255 else False
instance (l : LL) : Decidable (isBroadcast l) := by unfold isBroadcast; infer_instance
/-- checksum octet = modulo-256 sum of the octets from `csStart` up to it -/
def checksumOk (l : LL) : Prop :=
  sum8 ((l.buf.drop (hCsStart l)).take (hCsIndex l - hCsStart l).toNat) = g l.buf (hCsIndex l).toNat
instance (l : LL) : Decidable (checksumOk l) := by unfold checksumOk; infer_instance

/-- the checks of ParserHeaderSecondaryUnbalanced on the `msgSize` octets now in `l.buf`,
in the order of the C code -/
def secHeader (l : LL) (msgSize : Nat) : Verdict :=
  if isVar l ∧ g l.buf 1 ≠ g l.buf 2 then .error
  else if isVar l ∧ ¬ sizeOk l msgSize then .error
  else if ¬ isVar l ∧ ¬ isFixed l then .error
  else if isBroadcast l ∧ hCtrl l % 16 ≠ 4 then .error
  else if ¬ isBroadcast l ∧ frameAddress l ≠ l.address then .ignore
  else if ¬ checksumOk l then .error
  else if hCtrl l / 64 % 2 = 0 then .error
  else .ok (hCtrl l % 16) (decide (isBroadcast l)) (hCtrl l / 32 % 2 = 1) (hCtrl l / 16 % 2 = 1)
        (if isVar l then hUdStart l else 0) (if isVar l then hUdLen l else 0)

/-- ParserHeaderSecondaryUnbalanced -/
def SecU.parse (s : SecU) (now : Nat) (msgSize : Nat) : SecU × List Obs :=
  let s := { s with lastReceived := now }
  match secHeader s.ll msgSize with
  | .error => s.setState 1
  | .ignore => (s, [])
  | .ok fc bc fcb fcv udStart udLen => s.handleMessage fc bc fcb fcv udStart udLen

/-- LinkLayerSecondaryUnbalanced_run with port content `q` at time `now` -/
def SecU.run (s : SecU) (q : List Nat) (now : Nat) : SecU × List Nat × List Obs :=
  let (q', buf, m) := readNext s.ll.p.addrLen q s.ll.buf
  let s := { s with ll := { s.ll with buf := buf } }
  let (s, o) := match m with
    | some n => s.parse now n
    | none => (s, [])
  let (s, o2) := if s.state ≠ 0 ∧ now - s.lastReceived > s.idleTimeout then s.setState 0 else (s, [])
  (s, q', o ++ o2)

/-! ### balanced station: secondary part -/

structure Bal where
  ll : LL
  -- secondary
  expectedFcb : Bool := true
  /-- the last frame with a valid FCB was answered with ACK -/
  lastAck : Bool := false
  -- primary
  state : Nat := 0
  pstate : Nat := 0          -- PLL_IDLE .. PLL_TIMEOUT = 0..7
  waiting : Bool := false
  lastSend : Nat := 0
  origSend : Nat := 0
  testFn : Bool := false
  /-- the frame waiting for its ACK is the test function -/
  testSent : Bool := false
  nextFcb : Bool := true
  other : Nat := 0
  lastAsdu : List Nat := []
  lastReceived : Nat := 0
  idleTimeout : Nat := 5000
  /-- stub application layer: frames `GetUserData` will return; result of `HandleReceivedData` -/
  out : List (List Nat) := []
  accept : Bool := true
  deriving Repr, DecidableEq

def Bal.setState (s : Bal) (n : Nat) : Bal × List Obs :=
  if s.state ≠ n then ({ s with state := n }, [.st (-1) n]) else (s, [])

def Bal.ack (s : Bal) : Bal × List Obs :=
  if s.ll.p.singleAck then
    let (l, o) := s.ll.sendSingle; ({ s with ll := l }, o)
  else
    let (l, o) := s.ll.sendFixed 0 s.ll.address false s.ll.dir false false
    ({ s with ll := l }, o)

/-- LinkLayerSecondaryBalanced_handleMessage -/
def Bal.secHandle (s : Bal) (fc : Nat) (fcb fcv : Bool) (udStart : Nat) (udLen : Int) : Bal × List Obs :=
  let (valid, exp') := if fcv then checkFCB s.expectedFcb fcb else (true, s.expectedFcb)
  let s := { s with expectedFcb := exp' }
  if !valid then (if s.lastAck then s.ack else (s, []))     -- repetition: repeat the ACK, do not deliver
  else
  let s := if fcv then { s with lastAck := false } else s
  if fc = 0 then Bal.ack { s with expectedFcb := true, lastAck := false }
  else if fc = 2 then Bal.ack (if fcv then { s with lastAck := true } else s)
  else if fc = 3 then
    if udLen > 0 then
      let o := [Obs.rx false (userDataOf s.ll.buf udStart udLen)]
      if s.accept then let (s, o') := Bal.ack (if fcv then { s with lastAck := true } else s); (s, o ++ o') else (s, o)
    else (s, [])
  else if fc = 4 then
    (s, if udLen > 0 then [Obs.rx false (userDataOf s.ll.buf udStart udLen)] else [])
  else if fc = 9 then
    let (l, o) := s.ll.sendFixed 11 s.ll.address false s.ll.dir false false
    ({ s with ll := l }, o)
  else
    let (l, o) := s.ll.sendFixed 15 s.ll.address false s.ll.dir false false
    ({ s with ll := l }, o)

/-- LinkLayerPrimaryBalanced_handleMessage -/
def Bal.priHandle (s : Bal) (now : Nat) (fc : Nat) (dfc : Bool) : Bal × List Obs :=
  let ps := s.pstate
  let s := { s with lastReceived := now }
  if dfc then
    let ns := if ps = 1 ∨ ps = 2 then 1 else if ps = 4 ∨ ps = 6 then 6 else ps
    let (s, o) := s.setState 2
    ({ s with pstate := ns }, o)
  else if fc = 0 then
    if ps = 2 then
      let (s, o) := s.setState 3; ({ s with pstate := 3, waiting := false }, o)
    else if ps = 4 then
      let (s, o) := Bal.setState (if s.testSent then { s with testFn := false } else s) 3
      ({ s with pstate := 3, waiting := false }, o)
    else if ps = 1 then (s, [])
    else ({ s with waiting := false }, [])
  else if fc = 1 then
    if ps = 4 then let (s, o) := s.setState 2; ({ s with pstate := 6 }, o) else (s, [])
  else if fc = 8 ∨ fc = 9 then
    let (s, o) := s.setState 1; ({ s with pstate := 0 }, o)
  else if fc = 11 then
    if ps = 1 then
      let (l, o) := s.ll.sendFixed 0 s.other true s.ll.dir false false
      let s := { s with ll := l, lastSend := now, waiting := true, nextFcb := true }
      let (s, o') := s.setState 2
      ({ s with pstate := 2 }, o ++ o')
    else
      let (s, o) := s.setState 1; ({ s with pstate := 0 }, o)
  else if fc = 14 ∨ fc = 15 then
    let s := { s with testFn := false }
    if ps = 4 then let (s, o) := s.setState 3; ({ s with pstate := 3 }, o) else (s, [])
  else (s, [])

/-- LinkLayerPrimaryBalanced_runStateMachine -/
def Bal.priRun (s : Bal) (now : Nat) : Bal × List Obs :=
  let ps := s.pstate
  if ps = 0 then
    let (l, o) := s.ll.sendFixed 9 s.other true s.ll.dir false false
    ({ s with ll := l, origSend := 0, testFn := false, lastSend := now, waiting := true, pstate := 1 }, o)
  else if ps = 1 then
    if s.waiting then
      let s := if s.lastSend > now then { s with lastSend := now } else s
      if now > s.lastSend + s.ll.p.tAck then ({ s with pstate := 0 }, []) else (s, [])
    else
      let (l, o) := s.ll.sendFixed 0 s.other true s.ll.dir false false
      ({ s with ll := l, lastSend := now, waiting := true, nextFcb := true, pstate := 2 }, o)
  else if ps = 2 then
    if s.waiting then
      let s := if s.lastSend > now then { s with lastSend := now } else s
      if now > s.lastSend + s.ll.p.tAck then
        let (s, o) := Bal.setState { s with waiting := false } 1
        ({ s with pstate := 0 }, o)
      else (s, [])
    else
      let (s, o) := s.setState 3; ({ s with pstate := 3 }, o)
  else if ps = 3 then
    let s := if s.lastReceived > now then { s with lastReceived := now } else s
    let s := if now - s.lastReceived > s.idleTimeout then { s with testFn := true } else s
    if s.testFn then
      let (l, o) := s.ll.sendFixed 2 s.other true s.ll.dir s.nextFcb true
      ({ s with ll := l, testSent := true, nextFcb := !s.nextFcb, lastSend := now, origSend := now, pstate := 4 }, o)
    else
      match s.out with
      | [] => (s, [])
      | d :: rest =>
        let s := { s with out := rest, lastAsdu := d, ll := { s.ll with userData := d } }
        let (l, o) := s.ll.sendVar 3 s.other true s.ll.dir s.nextFcb true d
        ({ s with ll := l, testSent := false, nextFcb := !s.nextFcb, lastSend := now, origSend := now, waiting := true, pstate := 4 }, o)
  else if ps = 4 then
    let s := if s.lastSend > now then { s with lastSend := now } else s
    if now > s.lastSend + s.ll.p.tAck then
      if now > s.origSend + s.ll.p.tRepeat then
        let (s, o) := s.setState 1; ({ s with pstate := 0 }, o)
      else
        let (l, o) :=
          if s.testSent then s.ll.sendFixed 2 s.other true s.ll.dir (!s.nextFcb) true
          else s.ll.sendVar 3 s.other true s.ll.dir (!s.nextFcb) true s.lastAsdu
        ({ s with ll := l, lastSend := now }, o)
    else (s, [])
  else (s, [])

/-! ### primary, unbalanced (the CS101 master's link layer) -/

structure SlaveConn where
  address : Nat
  state : Nat := 0
  pstate : Nat := 0
  hasMsg : Bool := false
  msg : List Nat := []
  lastSend : Nat := 0
  origSend : Nat := 0
  req1 : Bool := false
  req2 : Bool := false
  dontSend : Bool := false
  waiting : Bool := false
  testFn : Bool := false
  nextFcb : Bool := true
  /-- function code of the request waiting for its response -/
  lastReq : Nat := 11
  deriving Repr, DecidableEq

structure PriU where
  ll : LL
  slaves : List SlaveConn := []
  /-- index into `slaves` of `currentSlave` -/
  cur : Option Nat := none
  curIdx : Nat := 0
  bcast : Option (List Nat) := none
  deriving Repr, DecidableEq

def SlaveConn.setState (c : SlaveConn) (n : Nat) : SlaveConn × List Obs :=
  if c.state ≠ n then ({ c with state := n }, [.st c.address n]) else (c, [])

/-- LinkLayerSlaveConnection_HandleMessage; `address` is the address in the frame (-1 for E5) -/
def SlaveConn.handle (c : SlaveConn) (l : LL) (now : Nat) (fc : Nat) (acd dfc : Bool) (address : Int)
    (udStart : Nat) (udLen : Int) : SlaveConn × LL × List Obs :=
  let ps := c.pstate
  if dfc then
    let c := { c with dontSend := true }
    let ns := if ps = 1 ∨ ps = 2 then 1 else if ps = 4 ∨ ps = 6 then 6 else ps
    let (c, o) := c.setState 2
    ({ c with pstate := ns }, l, o)
  else
    let c := { c with dontSend := false }
    let c := if acd then { c with req1 := true } else c
    let (c, l, o) : SlaveConn × LL × List Obs :=
      if fc = 0 then
        let (c, o) : SlaveConn × List Obs :=
          if ps = 2 then let (c, o) := c.setState 3; ({ c with pstate := 3 }, o)
          else if ps = 4 then
            let c := { c with hasMsg := false }
            let (c, o) := c.setState 3; ({ c with pstate := 3 }, o)
          else if ps = 5 then
            let c := if c.lastReq = 2 then { c with testFn := false } else c
            let (c, o) := c.setState 3; ({ c with pstate := 3 }, o)
          else (c, [])
        ({ c with waiting := false }, l, o)
      else if fc = 1 then
        let (c, o) : SlaveConn × List Obs :=
          if ps = 4 then let (c, o) := c.setState 2; ({ c with pstate := 6 }, o) else (c, [])
        ({ c with waiting := false }, l, o)
      else if fc = 11 then
        if ps = 1 then
          let (l, o) := l.sendFixed 0 c.address true false false false
          let c := { c with lastSend := now, waiting := true, nextFcb := true }
          let (c, o') := c.setState 2
          ({ c with pstate := 2 }, l, o ++ o')
        else
          let (c, o) := c.setState 1; ({ c with pstate := 0 }, l, o)
      else if fc = 8 then
        let (c, o) : SlaveConn × List Obs :=
          if ps = 5 then
            let o := [Obs.ud address (userDataOf l.buf udStart udLen)]
            let c := { c with req1 := false, req2 := false }
            let (c, o') := c.setState 3
            ({ c with pstate := 3 }, o ++ o')
          else let (c, o) := c.setState 1; ({ c with pstate := 0 }, o)
        ({ c with waiting := false }, l, o)
      else if fc = 9 then
        let (c, o) : SlaveConn × List Obs :=
          if ps = 5 then let (c, o) := c.setState 3; ({ c with pstate := 3 }, o)
          else let (c, o) := c.setState 1; ({ c with pstate := 0 }, o)
        ({ c with waiting := false }, l, o)
      else if fc = 14 ∨ fc = 15 then
        let (c, o) : SlaveConn × List Obs :=
          if ps = 4 then let (c, o) := c.setState 3; ({ c with pstate := 3 }, o)
          else if ps = 5 ∧ c.lastReq = 2 then
            let (c, o) := SlaveConn.setState { c with testFn := false } 3; ({ c with pstate := 3 }, o)
          else (c, [])
        ({ c with waiting := false }, l, o)
      else ({ c with waiting := false }, l, [])
    (c, l, o ++ (if acd then [Obs.ad address] else []))

/-- LinkLayerSlaveConnection_runStateMachine -/
def SlaveConn.run (c : SlaveConn) (l : LL) (now : Nat) : SlaveConn × LL × List Obs :=
  let ps := c.pstate
  let p := l.p
  if ps = 7 then
    let c := if c.lastSend > now then { c with lastSend := now } else c
    if now > c.lastSend + p.tLinkState then ({ c with pstate := 0 }, l, []) else (c, l, [])
  else if ps = 0 then
    let (l, o) := l.sendFixed 9 c.address true false false false
    ({ c with origSend := 0, testFn := false, lastSend := now, waiting := true, pstate := 1 }, l, o)
  else if ps = 1 then
    if c.waiting then
      let c := if c.lastSend > now then { c with lastSend := now } else c
      if now > c.lastSend + p.tAck then ({ c with waiting := false, lastSend := now, pstate := 7 }, l, [])
      else (c, l, [])
    else
      let (l, o) := l.sendFixed 0 c.address true false false false
      ({ c with lastSend := now, waiting := true, nextFcb := true, pstate := 2 }, l, o)
  else if ps = 2 then
    if c.waiting then
      let c := if c.lastSend > now then { c with lastSend := now } else c
      if now > c.lastSend + p.tAck then
        let (c, o) := SlaveConn.setState { c with waiting := false, lastSend := now } 1
        ({ c with pstate := 7 }, l, o)
      else (c, l, [])
    else
      let (c, o) := c.setState 3; ({ c with pstate := 3 }, l, o)
  else if ps = 3 then
    if c.testFn then
      let (l, o) := l.sendFixed 2 c.address true false c.nextFcb true
      ({ c with lastReq := 2, nextFcb := !c.nextFcb, lastSend := now, origSend := now, waiting := true, pstate := 5 }, l, o)
    else if c.hasMsg then
      let (l, o) := l.sendVar 3 c.address true false c.nextFcb true c.msg
      ({ c with nextFcb := !c.nextFcb, lastSend := now, origSend := now, waiting := true, pstate := 4 }, l, o)
    else if c.req1 ∨ c.req2 then
      let (l, o) := if c.req1 then l.sendFixed 10 c.address true false c.nextFcb true
                    else l.sendFixed 11 c.address true false c.nextFcb true
      let c := if c.req1 then { c with req1 := false, lastReq := 10 } else { c with req2 := false, lastReq := 11 }
      ({ c with nextFcb := !c.nextFcb, lastSend := now, origSend := now, waiting := true, pstate := 5 }, l, o)
    else (c, l, [])
  else if ps = 4 then
    let c := if c.lastSend > now then { c with lastSend := now } else c
    if now > c.lastSend + p.tAck then
      if now > c.origSend + p.tRepeat then
        let (c, o) := SlaveConn.setState { c with waiting := false, lastSend := now } 1
        ({ c with pstate := 7 }, l, o)
      else
        let (l, o) := l.sendVar 3 c.address true false (!c.nextFcb) true c.msg
        ({ c with lastSend := now }, l, o)
    else (c, l, [])
  else if ps = 5 then
    let c := if c.lastSend > now then { c with lastSend := now } else c
    if now > c.lastSend + p.tAck then
      if now > c.origSend + p.tRepeat then
        let (c, o) := SlaveConn.setState { c with req1 := false, req2 := false } 1
        ({ c with pstate := 0 }, l, o)
      else
        let (l, o) := l.sendFixed c.lastReq c.address true false (!c.nextFcb) true
        ({ c with lastSend := now }, l, o)
    else (c, l, [])
  else (c, l, [])

def PriU.findIdx (s : PriU) (address : Int) : Option Nat :=
  s.slaves.findIdx? (fun c => (c.address : Int) = address)

def PriU.handle (s : PriU) (now : Nat) (fc : Nat) (acd dfc : Bool) (address : Int) (udStart : Nat)
    (udLen : Int) : PriU × List Obs :=
  let idx := if address = -1 then s.cur else s.findIdx address
  match idx with
  | none => (s, [])
  | some i =>
    match s.slaves[i]? with
    | none => (s, [])
    | some c =>
      let (c, l, o) := c.handle s.ll now fc acd dfc address udStart udLen
      ({ s with slaves := s.slaves.set i c, ll := l }, o)

/-- LinkLayerPrimaryUnbalanced_runStateMachine -/
def PriU.runSM (s : PriU) (now : Nat) : PriU × List Obs :=
  let (s, o0) : PriU × List Obs :=
    match s.bcast with
    | some d =>
      let ba := if s.ll.p.addrLen = 1 then 255 else if s.ll.p.addrLen = 2 then 65535 else 0
      let (l, o) := s.ll.sendVar 4 ba true false false false d
      ({ s with ll := l, bcast := none }, o)
    | none => (s, [])
  if s.slaves.isEmpty then (s, o0)
  else
    let s := match s.cur with
      | some i => if ((s.slaves[i]?).map (fun (c : SlaveConn) => c.waiting)).getD false then s else { s with cur := none }
      | none => s
    let s := match s.cur with
      | some _ => s
      | none => { s with cur := some s.curIdx, curIdx := (s.curIdx + 1) % s.slaves.length }
    match s.cur with
    | none => (s, o0)
    | some i =>
      match s.slaves[i]? with
      | none => (s, o0)
      | some c =>
        let (c, l, o) := c.run s.ll now
        ({ s with slaves := s.slaves.set i c, ll := l }, o0 ++ o)

/-! ### HandleMessageBalancedAndPrimaryUnbalanced -/

structure Hdr where
  single : Bool
  c : Nat
  address : Nat
  udStart : Nat
  udLen : Int
  deriving Repr, DecidableEq

/-- the checks of HandleMessageBalancedAndPrimaryUnbalanced; `none`: frame ignored -/
def parseBP (l : LL) (msgSize : Nat) : Option Hdr :=
  if g l.buf 0 = 0xe5 then some ⟨true, 0, 0, 0, 0⟩
  else if isVar l ∧ g l.buf 1 ≠ g l.buf 2 then none
  else if isVar l ∧ ¬ sizeOk l msgSize then none
  else if ¬ isVar l ∧ ¬ isFixed l then none
  else if ¬ checksumOk l then none
  else some ⟨false, hCtrl l, frameAddress l, if isVar l then hUdStart l else 0, if isVar l then hUdLen l else 0⟩

def Bal.onMessage (s : Bal) (now : Nat) (msgSize : Nat) : Bal × List Obs :=
  match parseBP s.ll msgSize with
  | none => (s, [])
  | some h =>
    if h.single then s.priHandle now 0 false
    else if h.c / 64 % 2 = 1 then
      let (s, o) := s.secHandle (h.c % 16) (h.c / 32 % 2 = 1) (h.c / 16 % 2 = 1) h.udStart h.udLen
      ({ s with lastReceived := now }, o)       -- LinkLayerPrimaryBalanced_resetIdleTimeout
    else s.priHandle now (h.c % 16) (h.c / 16 % 2 = 1)

/-- LinkLayerBalanced_run -/
def Bal.run (s : Bal) (q : List Nat) (now : Nat) : Bal × List Nat × List Obs :=
  let (q', buf, m) := readNext s.ll.p.addrLen q s.ll.buf
  let s := { s with ll := { s.ll with buf := buf } }
  let (s, o) := match m with
    | some n => s.onMessage now n
    | none => (s, [])
  let (s, o2) := s.priRun now
  (s, q', o ++ o2)

def PriU.onMessage (s : PriU) (now : Nat) (msgSize : Nat) : PriU × List Obs :=
  match parseBP s.ll msgSize with
  | none => (s, [])
  | some h =>
    if h.single then s.handle now 0 false false (-1) 0 0
    else if h.c / 64 % 2 = 1 then (s, [])      -- PRM=1 towards a primary-only station: no secondary, no balanced primary
    else s.handle now (h.c % 16) (h.c / 32 % 2 = 1) (h.c / 16 % 2 = 1) h.address h.udStart h.udLen

/-- LinkLayerPrimaryUnbalanced_run -/
def PriU.run (s : PriU) (q : List Nat) (now : Nat) : PriU × List Nat × List Obs :=
  let (q', buf, m) := readNext s.ll.p.addrLen q s.ll.buf
  let s := { s with ll := { s.ll with buf := buf } }
  let (s, o) := match m with
    | some n => s.onMessage now n
    | none => (s, [])
  let (s, o2) := s.runSM now
  (s, q', o ++ o2)

/-! ### API of the unbalanced primary used by the master -/

def PriU.addSlave (s : PriU) (address : Nat) : PriU :=
  if (s.findIdx address).isSome then s else { s with slaves := s.slaves ++ [{ address := address }] }

def PriU.updSlave (s : PriU) (address : Nat) (f : SlaveConn → SlaveConn) : PriU × Bool :=
  match s.findIdx address with
  | none => (s, false)
  | some i => ({ s with slaves := s.slaves.modify i f }, true)

def PriU.sendConfirmed (s : PriU) (address : Nat) (d : List Nat) : PriU × Bool :=
  match s.findIdx address with
  | none => (s, false)
  | some i =>
    match s.slaves[i]? with
    | none => (s, false)
    | some c => if c.hasMsg then (s, false)
                else ({ s with slaves := s.slaves.set i { c with msg := d, hasMsg := true } }, true)

def PriU.sendNoReply (s : PriU) (address : Nat) (d : List Nat) : PriU × Bool :=
  let ba := if s.ll.p.addrLen = 1 then 255 else if s.ll.p.addrLen = 2 then 65535 else 0
  if address = ba then
    if s.bcast.isSome then (s, false) else ({ s with bcast := some d }, true)
  else s.sendConfirmed address d

end Iec.Link101
